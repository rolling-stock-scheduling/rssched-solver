/-
Lemmas/TourOps: what a successful run of a tour operation of Model/Tour.lean computed. A theorem
`f_ok` for `remove`, `insertPlan`, `insertPath`, `replaceStartDepot`, `replaceEndDepot`, `new`,
`subPath`, `positionOf` and (as equivalences) `startDepot`, `endDepot`: from `f … = .ok r` it gives
the intermediate values, the guards that passed, the calls in the order of the code and the result
in closed form, so that a proof about a successful run need not unfold the operation. The other
operations are inverted where they are used: `newDummy` and the strip functions in Props/C10Dummy
and C12Insert, `conflict` in C10Fit, `insertCaches` in C09Insert, `getInsertPositions` in C12Insert.
At the end, `tourValidB` clause by clause for real and for dummy tours.
-/
import RSSched.Lemmas.Fault
import RSSched.Spec.Tour
namespace RSSched
open Network Tour Spec

theorem idxAt_ok (l : List Nat) (i : Nat) (h : i < l.length) : idxAt l i = .ok (l.getD i 0) := by
  unfold idxAt
  simp [List.getElem?_eq_getElem h, List.getD_eq_getElem?_getD]

theorem C09.slice_inv {l : List Nat} {s e : Nat} {r : List Nat} (h : slice l s e = .ok r) :
    s ≤ e ∧ e ≤ l.length ∧ r = (l.drop s).take (e - s) := by
  rcases ite_ok h with ⟨hc, ⟨⟩⟩ | ⟨_, ⟨⟩⟩
  rw [Bool.and_eq_true, decide_eq_true_eq, decide_eq_true_eq] at hc
  exact ⟨hc.1, hc.2, rfl⟩

theorem take_drop_split (l : List Nat) (s e : Nat) (hse : s ≤ e) :
    l = l.take s ++ (l.drop s).take (e - s) ++ l.drop e := by
  rw [List.append_assoc, show l.drop e = (l.drop s).drop (e - s) by rw [List.drop_drop, Nat.add_sub_cancel' hse],
    List.take_append_drop, List.take_append_drop]

namespace Tour

theorem slice_parts {l : List Nat} {s e : Nat} {r : List Nat} (h : slice l s e = .ok r) :
    l = l.take s ++ r ++ l.drop e ∧ (l.take s).length = s ∧ r.length = e - s ∧ s ≤ e := by
  obtain ⟨h1, h2, rfl⟩ := C09.slice_inv h
  exact ⟨take_drop_split l s e h1, List.length_take_of_le (Nat.le_trans h1 h2),
    List.length_take_of_le (by rw [List.length_drop]; exact Nat.sub_le_sub_right h2 s), h1⟩

theorem startDepot_eq_ok {nw : Network} {t : Tour} {sd : Nat} :
    t.startDepot nw = .ok sd ↔ t.nodes.head? = some sd ∧ (nw.node sd).isStartDepot = true := by
  unfold Tour.startDepot Tour.firstNode
  constructor
  · intro h
    obtain ⟨f, hf, h⟩ := bind_ok h
    rcases ite_ok h with ⟨hs, ⟨⟩⟩ | ⟨-, ⟨⟩⟩
    exact ⟨List.head?_eq_getElem?.trans (idxAt_inv hf), hs⟩
  · rintro ⟨h1, h2⟩
    unfold idxAt
    rw [← List.head?_eq_getElem?, h1, ok_bind, if_pos h2]
    rfl

theorem endDepot_eq_ok {nw : Network} {t : Tour} {ed : Nat} :
    t.endDepot nw = .ok ed ↔ t.nodes.getLast? = some ed ∧ (nw.node ed).isEndDepot = true := by
  unfold Tour.endDepot Tour.lastNode
  constructor
  · intro h
    obtain ⟨l, hl, h⟩ := bind_ok h
    rcases ite_ok h with ⟨he, ⟨⟩⟩ | ⟨-, ⟨⟩⟩
    exact ⟨List.getLast?_eq_getElem?.trans (idxAt_inv hl), he⟩
  · rintro ⟨h1, h2⟩
    unfold idxAt
    rw [← List.getLast?_eq_getElem?, h1, ok_bind, if_pos h2]
    rfl

theorem positionOf_ok {t : Tour} {x p : Nat} (h : t.positionOf x = .ok p) : posOf t.nodes x = some p := by
  unfold Tour.positionOf at h
  split at h
  · rename_i q hq
    cases h
    exact hq
  · cases h

theorem pathTrusted_some {nw : Network} {l p : List Nat} (h : pathTrusted nw l = some p) : p = l := by
  unfold pathTrusted at h
  split at h
  · cases h
  · cases h
    rfl

/-- `Tour::sub_path` -/
theorem subPath_ok {nw : Network} {t : Tour} {a b : Nat} {path : List Nat} (h : Tour.subPath nw t a b = .ok path) :
    ∃ s e, t.positionOf a = .ok s ∧ t.positionOf b = .ok e ∧ s ≤ e ∧ e + 1 ≤ t.nodes.length ∧
      path = (t.nodes.drop s).take (e + 1 - s) := by
  unfold Tour.subPath at h
  dsimp only at h
  cases hs : t.positionOf a with
  | error _ => rw [hs] at h; exact absurd h error_bind_ne
  | ok s =>
    rw [hs] at h
    obtain ⟨_, ⟨⟩, h⟩ := bind_ok h
    cases he : t.positionOf b with
    | error _ => rw [he] at h; exact absurd h error_bind_ne
    | ok e =>
      rw [he] at h
      obtain ⟨_, ⟨⟩, h⟩ := bind_ok h
      obtain ⟨hse, h⟩ := else_ok h
      obtain ⟨sl, hsl, h⟩ := bind_ok h
      obtain ⟨-, hlen, rfl⟩ := C09.slice_inv hsl
      split at h
      · rename_i p hp
        cases h
        exact ⟨s, e, rfl, rfl, Nat.le_of_not_gt hse, hlen, pathTrusted_some hp⟩
      · cases h

/-- `Tour::remove`; `ot = none`: nothing or only depots would be left -/
theorem remove_ok {nw : Network} {t : Tour} {a b : Nat} {ot : Option Tour} {path : List Nat}
    (h : Tour.remove nw t a b = .ok (ot, path)) :
    ∃ s e removed rest ud sd dh c,
      rest = t.nodes.take s ++ t.nodes.drop (e + 1) ∧
      t.positionOf a = .ok s ∧ t.positionOf b = .ok e ∧ checkSeqRemovable nw t s e = .ok () ∧
      slice t.nodes s (e + 1) = .ok removed ∧ pathTrusted nw removed = some path ∧
      Dur.sub t.usefulDur (nw.usefulDurOf removed) = .ok ud ∧
      Dist.sub t.serviceDist (nw.serviceDistOf removed) = .ok sd ∧
      (∃ seg dh0 gapD, dhDistOfSegment nw t s (e + 1) = .ok seg ∧ Dist.sub t.dhDist seg = .ok dh0 ∧
        gapDist nw t.nodes s e = .ok gapD ∧
        dh = if t.dhDist == .inf then nw.dhDistOf rest else Dist.add dh0 gapD) ∧
      (∃ cseg c0 gapC, costsOfSegment nw t s (e + 1) = .ok cseg ∧
        subNat t.costs cseg "costs underflow" = .ok c0 ∧ gapCost nw t.nodes s e = .ok gapC ∧ c = c0 + gapC) ∧
      match (generalizing := false) ot with
      | none => (rest.isEmpty || (!t.isDummy && rest.length ≤ 2)) = true
      | some t' => ¬ (rest.isEmpty || (!t.isDummy && rest.length ≤ 2)) = true ∧
          t' = { nodes := rest, isDummy := t.isDummy,
                 visitsMaint := t.visitsMaint &&
                   (!(removed.any (fun n => (nw.node n).isMaint)) || rest.any (fun n => (nw.node n).isMaint)),
                 usefulDur := ud, serviceDist := sd, dhDist := dh, costs := c } := by
  unfold Tour.remove at h
  obtain ⟨s, hs, h⟩ := bind_ok h
  obtain ⟨e, he, h⟩ := bind_ok h
  obtain ⟨_, hchk, h⟩ := bind_ok h
  obtain ⟨removed, hrem, h⟩ := bind_ok h
  obtain ⟨ud, hud, h⟩ := bind_ok h
  obtain ⟨sd, hsd, h⟩ := bind_ok h
  obtain ⟨seg, hseg, h⟩ := bind_ok h
  obtain ⟨dh0, hdh0, h⟩ := bind_ok h
  obtain ⟨gapD, hgapD, h⟩ := bind_ok h
  obtain ⟨cseg, hcseg, h⟩ := bind_ok h
  obtain ⟨c0, hc0, h⟩ := bind_ok h
  obtain ⟨gapC, hgapC, h⟩ := bind_ok h
  cases hp : pathTrusted nw removed with
  | none => rw [hp] at h; cases h
  | some p =>
    rw [hp] at h
    obtain ⟨rfl, hot⟩ := ite_none_some_ok h
    refine ⟨s, e, removed, _, ud, sd, _, _, rfl, hs, he, hchk, hrem, hp, hud, hsd,
      ⟨seg, dh0, gapD, hseg, hdh0, hgapD, rfl⟩, ⟨cseg, c0, gapC, hcseg, hc0, hgapC, rfl⟩, ?_⟩
    cases ot <;> exact hot

/-- the node-level part of `Tour::insert_path` -/
theorem insertPlan_ok {nw : Network} {strict : Bool} {t : Tour} {path : List Nat} {pl : InsertPlan}
    (h : insertPlan nw strict t path = .ok pl) :
    ∃ p1 first last, stripFirst nw t.isDummy path = .ok p1 ∧ stripLast nw t.isDummy p1 = .ok pl.newNodes ∧
      idxAt pl.newNodes 0 = .ok first ∧ idxAt pl.newNodes (pl.newNodes.length - 1) = .ok last ∧
      getInsertPositions nw strict t first last = .ok (pl.s, pl.e) ∧ slice t.nodes pl.s pl.e = .ok pl.old ∧
      pl.tourNodes = t.nodes.take pl.s ++ pl.newNodes ++ t.nodes.drop pl.e := by
  unfold insertPlan at h
  obtain ⟨p1, hp1, h⟩ := bind_ok h
  obtain ⟨p2, hp2, h⟩ := bind_ok h
  obtain ⟨first, hfirst, h⟩ := bind_ok h
  obtain ⟨last, hlast, h⟩ := bind_ok h
  obtain ⟨se, hse, h⟩ := bind_ok h
  obtain ⟨old, hold, h⟩ := bind_ok h
  cases h
  exact ⟨p1, first, last, hp1, hp2, hfirst, hlast, hse, hold, rfl⟩

/-- `Tour::insert_path` -/
theorem insertPath_ok {nw : Network} {strict : Bool} {t t' : Tour} {path : List Nat} {rm : Option (List Nat)}
    (h : insertPath nw strict t path = .ok (t', rm)) :
    ∃ pl c, insertPlan nw strict t path = .ok pl ∧ insertCaches nw t pl = .ok c ∧
      t' = { nodes := pl.tourNodes, isDummy := t.isDummy, visitsMaint := c.1, usefulDur := c.2.1,
             serviceDist := c.2.2.1, dhDist := c.2.2.2.1, costs := c.2.2.2.2 } ∧
      rm = pathTrusted nw pl.old := by
  unfold insertPath at h
  obtain ⟨pl, hpl, h⟩ := bind_ok h
  obtain ⟨c, hc, h⟩ := bind_ok h
  cases h
  exact ⟨pl, c, hpl, hc, rfl, rfl⟩

theorem replaceStartDepot_ok {nw : Network} {t t' : Tour} {d : Nat} (h : replaceStartDepot nw t d = .ok t') :
    t.isDummy = false ∧ (nw.node d).isStartDepot = true ∧
    ∃ old fnd dh c, idxAt t.nodes 0 = .ok old ∧ idxAt (t.nodes.set 0 d) 1 = .ok fnd ∧
      (if t.dhDist == .inf then dh = nw.dhDistOf (t.nodes.set 0 d) else
        ∃ x, Dist.sub t.dhDist (nw.deadHeadDistanceBetween old fnd) = .ok x ∧
          dh = Dist.add x (nw.deadHeadDistanceBetween d fnd)) ∧
      subNat t.costs (nw.secOrPlanning (nw.deadHeadTimeBetween old fnd) * nw.cDH) "costs underflow" = .ok c ∧
      t' = { t with nodes := t.nodes.set 0 d, dhDist := dh,
                    costs := c + nw.secOrPlanning (nw.deadHeadTimeBetween d fnd) * nw.cDH } := by
  obtain ⟨hdum, h⟩ := else_ok h
  obtain ⟨hd, h⟩ := else_ok h
  obtain ⟨old, hold, h⟩ := bind_ok h
  obtain ⟨fnd, hfnd, h⟩ := bind_ok h
  refine ⟨by simpa using hdum, by simpa using hd, old, fnd, ?_⟩
  rcases ite_ok h with ⟨hinf, h⟩ | ⟨hinf, h⟩
  · obtain ⟨_, ⟨⟩, h⟩ := bind_ok h
    obtain ⟨c, hc, h⟩ := bind_ok h
    cases h
    exact ⟨_, c, hold, hfnd, by rw [if_pos hinf], hc, rfl⟩
  · obtain ⟨x, hx, h⟩ := bind_ok h
    obtain ⟨_, ⟨⟩, h⟩ := bind_ok h
    obtain ⟨c, hc, h⟩ := bind_ok h
    cases h
    exact ⟨_, c, hold, hfnd, by rw [if_neg hinf]; exact ⟨x, hx, rfl⟩, hc, rfl⟩

theorem replaceEndDepot_ok {nw : Network} {t t' : Tour} {d : Nat} (h : replaceEndDepot nw t d = .ok t') :
    t.isDummy = false ∧ (nw.node d).isEndDepot = true ∧ 2 ≤ t.nodes.length ∧
    ∃ old lnd dh c, idxAt t.nodes (t.nodes.length - 1) = .ok old ∧
      idxAt (t.nodes.set (t.nodes.length - 1) d) (t.nodes.length - 1 - 1) = .ok lnd ∧
      (if t.dhDist == .inf then dh = nw.dhDistOf (t.nodes.set (t.nodes.length - 1) d) else
        ∃ x, Dist.sub t.dhDist (nw.deadHeadDistanceBetween lnd old) = .ok x ∧
          dh = Dist.add x (nw.deadHeadDistanceBetween lnd d)) ∧
      subNat t.costs (nw.secOrPlanning (nw.deadHeadTimeBetween lnd old) * nw.cDH) "costs underflow" = .ok c ∧
      t' = { t with nodes := t.nodes.set (t.nodes.length - 1) d, dhDist := dh,
                    costs := c + nw.secOrPlanning (nw.deadHeadTimeBetween lnd d) * nw.cDH } := by
  obtain ⟨hdum, h⟩ := else_ok h
  obtain ⟨hd, h⟩ := else_ok h
  obtain ⟨h0, h⟩ := else_ok h
  obtain ⟨old, hold, h⟩ := bind_ok h
  obtain ⟨h1, h⟩ := else_ok h
  obtain ⟨lnd, hlnd, h⟩ := bind_ok h
  refine ⟨by simpa using hdum, by simpa using hd, ?_, old, lnd, ?_⟩
  · simp only [beq_iff_eq] at h0 h1
    omega
  rcases ite_ok h with ⟨hinf, h⟩ | ⟨hinf, h⟩
  · obtain ⟨_, ⟨⟩, h⟩ := bind_ok h
    obtain ⟨c, hc, h⟩ := bind_ok h
    cases h
    exact ⟨_, c, hold, hlnd, by rw [if_pos hinf], hc, rfl⟩
  · obtain ⟨x, hx, h⟩ := bind_ok h
    obtain ⟨_, ⟨⟩, h⟩ := bind_ok h
    obtain ⟨c, hc, h⟩ := bind_ok h
    cases h
    exact ⟨_, c, hold, hlnd, by rw [if_neg hinf]; exact ⟨x, hx, rfl⟩, hc, rfl⟩

/-- `Tour::new` -/
theorem new_ok {nw : Network} {nodes : List Nat} {t : Tour} (h : Tour.new nw nodes = .ok t) :
    ∃ f l, idxAt nodes 0 = .ok f ∧ idxAt nodes (nodes.length - 1) = .ok l ∧
      (nw.node f).isStartDepot = true ∧ (nw.node l).isEndDepot = true ∧ 3 ≤ nodes.length ∧
      ((nodes.take (nodes.length - 1)).drop 1).any (fun n => (nw.node n).isDepot) = false ∧
      (pairs nodes).any (fun p => !(nw.canReach p.1 p.2)) = false ∧ t = computing nw nodes false := by
  obtain ⟨errs, herr, h⟩ := bind_ok h
  obtain ⟨hne, ⟨⟩⟩ := else_ok h
  obtain ⟨f, hf, herr⟩ := bind_ok herr
  obtain ⟨l, hl, herr⟩ := bind_ok herr
  cases herr
  simp only [Bool.or_eq_true, not_or, Bool.not_eq_true, Bool.not_eq_false', decide_eq_false_iff_not,
    Nat.not_lt] at hne
  exact ⟨f, l, hf, hl, hne.1.1.1.1, hne.1.1.1.2, hne.1.1.2, hne.1.2, hne.2, rfl⟩

end Tour

theorem tourValidB_real {nw : Network} {t : Tour} (hv : tourValidB nw t = true) (hreal : t.isDummy = false) :
    3 ≤ t.nodes.length ∧ (nw.node (t.nodes.headD 0)).isStartDepot = true ∧
    (nw.node (t.nodes.getLastD 0)).isEndDepot = true ∧
    (inner t.nodes).all (fun n => isActivity (nw.node n)) = true ∧
    chainB nw t.nodes = true ∧ sortedB nw t.nodes = true := by
  unfold tourValidB at hv
  simpa only [hreal, Bool.false_eq_true, ↓reduceIte, Bool.and_eq_true, decide_eq_true_eq, and_assoc] using hv

theorem tourValidB_dummy {nw : Network} {t : Tour} (hv : tourValidB nw t = true) (hdum : t.isDummy = true) :
    t.nodes ≠ [] ∧ t.nodes.all (fun n => isActivity (nw.node n)) = true ∧
    sortedB nw t.nodes = true ∧ timeChainB nw t.nodes = true := by
  unfold tourValidB at hv
  simpa only [hdum, ↓reduceIte, Bool.and_eq_true, Bool.not_eq_true', List.isEmpty_eq_false_iff, and_assoc] using hv

end RSSched
