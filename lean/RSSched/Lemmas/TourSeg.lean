/-
Lemmas/TourSeg: the "segment terms" of tour/modifications.rs in list form. For
`nodes = pre ++ mid ++ suf`, `segD` / `segC` are the part of the from-scratch dead-head distance /
costs that belongs to `mid` and its two links (`dhDistOf_splice`, `costsOf_splice`), so the updates
`total − segment(old) + segment(new)` recompute the figures (`*_delta`). That the index-based
helpers of the Rust code compute these terms is Lemmas/SegIndex.
-/
import RSSched.Lemmas.Algebra
namespace RSSched

theorem getLast?_append_of_ne_nil {α} (l1 : List α) {l2 : List α} (h : l2 ≠ []) :
    (l1 ++ l2).getLast? = l2.getLast? := by
  rw [List.getLast?_append, Option.or_of_isSome (List.getLast?_isSome.mpr h)]

theorem head?_append_of_ne_nil {α} {l1 : List α} (h : l1 ≠ []) (l2 : List α) : (l1 ++ l2).head? = l1.head? := by
  rw [List.head?_append, Option.or_of_isSome (List.isSome_head?.mpr h)]

def conn {α β} (z : β) (g : α → α → β) : Option α → Option α → β
  | some a, some b => g a b
  | _, _ => z

@[simp] theorem conn_none_left {α β} (z : β) (g : α → α → β) (b : Option α) : conn z g none b = z := rfl
@[simp] theorem conn_none_right {α β} (z : β) (g : α → α → β) (a : Option α) : conn z g a none = z := by
  cases a <;> rfl

def connPairs {α} : Option α → Option α → List (α × α) := conn [] (fun a b => [(a, b)])

theorem pairs_append {α} : ∀ (l1 l2 : List α),
    pairs (l1 ++ l2) = pairs l1 ++ connPairs l1.getLast? l2.head? ++ pairs l2
  | [], _ => by simp [pairs, connPairs]
  | [_], [] => rfl
  | [_], _ :: _ => rfl
  | a :: b :: l1, l2 => by
    have ih := pairs_append (b :: l1) l2
    rw [List.cons_append] at ih
    simp [pairs, ih, List.getLast?_cons_cons]

namespace Network

def connD (nw : Network) : Option Nat → Option Nat → Dist := conn Dist.zero nw.deadHeadDistanceBetween

def connC (nw : Network) : Option Nat → Option Nat → Nat := conn 0 nw.linkCost

def linkSum (nw : Network) (l : List Nat) : Nat := sumNat ((pairs l).map (fun p => nw.linkCost p.1 p.2))
def nodeCostSum (nw : Network) (l : List Nat) : Nat := sumNat (l.map nw.nodeCost)

theorem costsOf_eq (nw : Network) (l : List Nat) : nw.costsOf l = nw.nodeCostSum l + nw.linkSum l := rfl

theorem connD_pairs (nw : Network) (a b : Option Nat) :
    sumDist ((connPairs a b).map (fun p => nw.deadHeadDistanceBetween p.1 p.2)) = nw.connD a b := by
  cases a <;> cases b <;> simp [connPairs, connD, conn, sumDist_cons]

theorem connC_pairs (nw : Network) (a b : Option Nat) :
    sumNat ((connPairs a b).map (fun p => nw.linkCost p.1 p.2)) = nw.connC a b := by
  cases a <;> cases b <;> simp [connPairs, connC, conn, sumNat]

theorem dhDistOf_append (nw : Network) (l1 l2 : List Nat) :
    nw.dhDistOf (l1 ++ l2) = Dist.add (Dist.add (nw.dhDistOf l1) (nw.connD l1.getLast? l2.head?)) (nw.dhDistOf l2) := by
  simp only [dhDistOf, pairs_append, List.map_append, sumDist_append, connD_pairs]

theorem linkSum_append (nw : Network) (l1 l2 : List Nat) :
    nw.linkSum (l1 ++ l2) = nw.linkSum l1 + nw.connC l1.getLast? l2.head? + nw.linkSum l2 := by
  simp only [linkSum, pairs_append, List.map_append, sumNat_append, connC_pairs]

theorem nodeCostSum_append (nw : Network) (l1 l2 : List Nat) :
    nw.nodeCostSum (l1 ++ l2) = nw.nodeCostSum l1 + nw.nodeCostSum l2 := by
  simp only [nodeCostSum, List.map_append, sumNat_append]

theorem usefulDurOf_append (nw : Network) (l1 l2 : List Nat) :
    nw.usefulDurOf (l1 ++ l2) = Dur.add (nw.usefulDurOf l1) (nw.usefulDurOf l2) := by
  simp only [usefulDurOf, List.map_append, sumDur_append]

theorem serviceDistOf_append (nw : Network) (l1 l2 : List Nat) :
    nw.serviceDistOf (l1 ++ l2) = Dist.add (nw.serviceDistOf l1) (nw.serviceDistOf l2) := by
  simp only [serviceDistOf, List.map_append, sumDist_append]

theorem visitsMaintOf_append (nw : Network) (l1 l2 : List Nat) :
    nw.visitsMaintOf (l1 ++ l2) = (nw.visitsMaintOf l1 || nw.visitsMaintOf l2) := by
  simp [visitsMaintOf]

/-- what `dead_head_distance_of_segment` / `.._of_new_nodes` compute for `mid` between `pre` and `suf` -/
def segD (nw : Network) (pre mid suf : List Nat) : Dist :=
  match mid with
  | [] => nw.connD pre.getLast? suf.head?
  | _ => Dist.add (Dist.add (nw.connD pre.getLast? mid.head?) (nw.dhDistOf mid)) (nw.connD mid.getLast? suf.head?)

/-- what `costs_of_segment` / `costs_of_new_nodes` compute -/
def segC (nw : Network) (pre mid suf : List Nat) : Nat :=
  match mid with
  | [] => nw.connC pre.getLast? suf.head?
  | _ => nw.connC pre.getLast? mid.head? + nw.linkSum mid + nw.connC mid.getLast? suf.head? + nw.nodeCostSum mid

theorem dhDistOf_splice (nw : Network) (pre mid suf : List Nat) :
    nw.dhDistOf (pre ++ mid ++ suf) = Dist.add (Dist.add (nw.dhDistOf pre) (nw.segD pre mid suf)) (nw.dhDistOf suf) := by
  cases mid with
  | nil => simp [segD, dhDistOf_append]
  | cons m ms =>
    rw [List.append_assoc, dhDistOf_append, dhDistOf_append nw (m :: ms) suf]
    simp [segD, Dist.add_assoc]

theorem costsOf_splice (nw : Network) (pre mid suf : List Nat) :
    nw.costsOf (pre ++ mid ++ suf) = nw.costsOf pre + nw.segC pre mid suf + nw.costsOf suf := by
  cases mid with
  | nil => simp only [segC, costsOf_eq, List.append_nil, linkSum_append, nodeCostSum_append]; omega
  | cons m ms =>
    rw [List.append_assoc]
    simp only [costsOf_eq, linkSum_append nw pre, linkSum_append nw (m :: ms) suf, nodeCostSum_append, segC]
    simp
    omega

theorem usefulDurOf_delta (nw : Network) {tot x : Dur} (pre old new suf : List Nat)
    (htot : tot = nw.usefulDurOf (pre ++ old ++ suf)) (hfin : tot ≠ Dur.inf)
    (hx : Dur.sub tot (nw.usefulDurOf old) = .ok x) :
    Dur.add x (nw.usefulDurOf new) = nw.usefulDurOf (pre ++ new ++ suf) := by
  simp only [usefulDurOf_append] at htot ⊢
  exact Dur.delta htot hfin hx _

theorem serviceDistOf_delta (nw : Network) {tot x : Dist} (pre old new suf : List Nat)
    (htot : tot = nw.serviceDistOf (pre ++ old ++ suf)) (hfin : tot ≠ Dist.inf)
    (hx : Dist.sub tot (nw.serviceDistOf old) = .ok x) :
    Dist.add x (nw.serviceDistOf new) = nw.serviceDistOf (pre ++ new ++ suf) := by
  simp only [serviceDistOf_append] at htot ⊢
  exact Dist.delta htot hfin hx _

theorem dhDistOf_delta (nw : Network) {tot x : Dist} (pre old new suf : List Nat)
    (htot : tot = nw.dhDistOf (pre ++ old ++ suf)) (hfin : tot ≠ Dist.inf)
    (hx : Dist.sub tot (nw.segD pre old suf) = .ok x) :
    Dist.add x (nw.segD pre new suf) = nw.dhDistOf (pre ++ new ++ suf) := by
  rw [dhDistOf_splice] at htot ⊢
  exact Dist.delta htot hfin hx _

/-- costs are subtracted in truncated arithmetic; the subtrahend is a part of the total -/
theorem costsOf_delta (nw : Network) {tot : Nat} (pre old new suf : List Nat)
    (htot : tot = nw.costsOf (pre ++ old ++ suf)) :
    tot - nw.segC pre old suf + nw.segC pre new suf = nw.costsOf (pre ++ new ++ suf) := by
  rw [costsOf_splice] at htot ⊢
  omega

end Network
end RSSched
