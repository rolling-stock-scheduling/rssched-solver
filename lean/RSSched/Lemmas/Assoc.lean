/-
Lemmas/Assoc: association lists with duplicate-free keys behave like finite maps
(`assocGet?` after `assocSet` / `assocErase`, and invariance under permutation, which is what the
sorted `cycle_lookup` dump relies on), plus `List.set` / position lemmas used by the
rotation-cycle proofs.
-/
import RSSched.Model.Base
namespace RSSched
variable {κ ν : Type} [DecidableEq κ]

theorem assocGet?_nil (k : κ) : assocGet? ([] : List (κ × ν)) k = none := rfl

theorem assocGet?_cons (p : κ × ν) (l : List (κ × ν)) (k : κ) :
    assocGet? (p :: l) k = if p.1 = k then some p.2 else assocGet? l k := by
  unfold assocGet?
  by_cases h : p.1 = k <;> simp [h]

theorem assocGet?_eq_none_iff (l : List (κ × ν)) (k : κ) :
    assocGet? l k = none ↔ k ∉ l.map (·.1) := by
  induction l with
  | nil => simp [assocGet?_nil]
  | cons p ps ih =>
    rw [assocGet?_cons]
    by_cases h : p.1 = k
    · simp [h]
    · rw [if_neg h, ih, List.map_cons, List.mem_cons, not_or]
      exact ⟨fun h1 => ⟨fun e => h e.symm, h1⟩, fun h1 => h1.2⟩

theorem assocGet?_mem {l : List (κ × ν)} {k : κ} {x : ν} (h : assocGet? l k = some x) : (k, x) ∈ l := by
  induction l with
  | nil => simp [assocGet?_nil] at h
  | cons p ps ih =>
    rw [assocGet?_cons] at h
    split at h
    · rename_i e
      cases h
      subst e
      exact List.mem_cons_self
    · exact List.mem_cons_of_mem _ (ih h)

theorem assocGet?_of_mem {l : List (κ × ν)} {k : κ} {x : ν} (hnd : (l.map (·.1)).Nodup)
    (h : (k, x) ∈ l) : assocGet? l k = some x := by
  induction l with
  | nil => cases h
  | cons p ps ih =>
    rw [assocGet?_cons]
    have hnd' : p.1 ∉ ps.map (·.1) ∧ (ps.map (·.1)).Nodup := by
      rw [List.map_cons] at hnd; exact List.nodup_cons.mp hnd
    cases h with
    | head => simp
    | tail _ hm =>
      have hk : k ∈ ps.map (·.1) := List.mem_map.mpr ⟨(k, x), hm, rfl⟩
      have hne : p.1 ≠ k := fun e => hnd'.1 (e ▸ hk)
      simp only [hne, ↓reduceIte]
      exact ih hnd'.2 hm

theorem assocGet?_perm {l1 l2 : List (κ × ν)} (hp : l1.Perm l2) (hnd : (l1.map (·.1)).Nodup) (k : κ) :
    assocGet? l1 k = assocGet? l2 k := by
  have hnd2 : (l2.map (·.1)).Nodup := (hp.map _).nodup_iff.mp hnd
  cases h1 : assocGet? l1 k with
  | none =>
    have := (assocGet?_eq_none_iff l1 k).mp h1
    have h2 : k ∉ l2.map (·.1) := fun hm => this ((hp.map _).mem_iff.mpr hm)
    exact ((assocGet?_eq_none_iff l2 k).mpr h2).symm
  | some x =>
    have := assocGet?_mem h1
    exact (assocGet?_of_mem hnd2 (hp.mem_iff.mp this)).symm

theorem assocSet_keys_nodup (l : List (κ × ν)) (k : κ) (v : ν) (hnd : (l.map (·.1)).Nodup) :
    ((assocSet l k v).map (·.1)).Nodup := by
  unfold assocSet
  split
  · have : (l.map (fun p => if p.1 = k then (k, v) else p)).map (·.1) = l.map (·.1) := by
      rw [List.map_map]; apply List.map_congr_left; intro p _
      by_cases e : p.1 = k <;> simp [e]
    rw [this]; exact hnd
  · rename_i hany
    rw [List.map_append, List.nodup_append]
    refine ⟨hnd, by simp, ?_⟩
    intro a ha b hb
    simp at hb; subst hb
    intro e; subst e
    apply hany
    obtain ⟨p, hp, hpk⟩ := List.mem_map.mp ha
    exact List.any_eq_true.mpr ⟨p, hp, by simp [hpk]⟩

theorem assocGet?_map_ne (l : List (κ × ν)) (k : κ) (v : ν) {k' : κ} (h : k' ≠ k) :
    assocGet? (l.map (fun p => if p.1 = k then (k, v) else p)) k' = assocGet? l k' := by
  induction l with
  | nil => rfl
  | cons p ps ih =>
    rw [List.map_cons, assocGet?_cons, assocGet?_cons, ih]
    by_cases e : p.1 = k
    · have h1 : ¬ k = k' := fun e' => h e'.symm
      simp only [e, ↓reduceIte, h1]
    · simp only [e, ↓reduceIte]

theorem assocGet?_assocSet (l : List (κ × ν)) (k : κ) (v : ν) (k' : κ) :
    assocGet? (assocSet l k v) k' = if k' = k then some v else assocGet? l k' := by
  unfold assocSet
  induction l with
  | nil => simp [assocGet?_cons, assocGet?_nil, eq_comm]
  | cons p ps ih =>
    rw [assocGet?_cons]
    by_cases e : p.1 = k
    · rw [if_pos (by simp [e]), List.map_cons, if_pos e, assocGet?_cons]
      by_cases e' : k' = k
      · simp [e']
      · have h1 : ¬ k = k' := fun h => e' h.symm
        have h2 : ¬ p.1 = k' := fun h => e' (h.symm.trans e)
        simp only [h1, h2, e', ↓reduceIte, assocGet?_map_ne ps k v e']
    · have hany : (p :: ps).any (·.1 = k) = ps.any (·.1 = k) := by simp [e]
      rw [hany, List.map_cons, if_neg e, List.cons_append, ← apply_ite (List.cons p), assocGet?_cons, ih]
      by_cases e' : p.1 = k'
      · have : ¬ k' = k := fun h => e (e'.trans h)
        simp [e', this]
      · simp [e']

theorem assocErase_keys_nodup (l : List (κ × ν)) (k : κ) (hnd : (l.map (·.1)).Nodup) :
    ((assocErase l k).map (·.1)).Nodup := by
  unfold assocErase
  exact (List.filter_sublist.map _).nodup hnd

theorem assocGet?_assocErase (l : List (κ × ν)) (k k' : κ) :
    assocGet? (assocErase l k) k' = if k' = k then none else assocGet? l k' := by
  unfold assocErase
  induction l with
  | nil => simp [assocGet?_nil]
  | cons p ps ih =>
    by_cases e : p.1 = k
    · rw [List.filter_cons_of_neg (by simp [e]), ih, assocGet?_cons]
      by_cases e' : k' = k
      · simp [e']
      · have : ¬ p.1 = k' := fun h => e' (h.symm.trans e)
        simp [e', this]
    · rw [List.filter_cons_of_pos (by simp [e]), assocGet?_cons, assocGet?_cons, ih]
      by_cases e' : p.1 = k'
      · have : ¬ k' = k := fun h => e (e'.trans h)
        simp [e', this]
      · simp [e']

theorem get_set_ne (l : List (κ × ν)) (k k' : κ) (x : ν) (h : k' ≠ k) :
    assocGet? (assocSet l k x) k' = assocGet? l k' := by
  rw [assocGet?_assocSet, if_neg h]

theorem get_erase_ne (l : List (κ × ν)) (k k' : κ) (h : k' ≠ k) :
    assocGet? (assocErase l k) k' = assocGet? l k' := by
  rw [assocGet?_assocErase, if_neg h]

theorem get_set_self (l : List (κ × ν)) (k : κ) (x : ν) : assocGet? (assocSet l k x) k = some x := by
  rw [assocGet?_assocSet, if_pos rfl]

theorem get_erase_self (l : List (κ × ν)) (k : κ) : assocGet? (assocErase l k) k = none := by
  rw [assocGet?_assocErase, if_pos rfl]

theorem assoc_split {l : List (κ × ν)} {k : κ} {old : ν}
    (hnd : (l.map (·.1)).Nodup) (h : assocGet? l k = some old) :
    ∃ pre suf, l = pre ++ (k, old) :: suf ∧ (∀ v, assocSet l k v = pre ++ (k, v) :: suf) ∧
      assocErase l k = pre ++ suf := by
  obtain ⟨pre, suf, rfl⟩ := List.append_of_mem (assocGet?_mem h)
  rw [List.map_append, List.map_cons, List.nodup_append, List.nodup_cons] at hnd
  obtain ⟨-, ⟨hsuf, -⟩, hpre⟩ := hnd
  have hp : ∀ q ∈ pre, ¬ q.1 = k := fun q hq e => hpre q.1 (List.mem_map.mpr ⟨q, hq, rfl⟩) k (List.mem_cons_self ..) e
  have hs : ∀ q ∈ suf, ¬ q.1 = k := fun q hq e => hsuf (List.mem_map.mpr ⟨q, hq, e⟩)
  refine ⟨pre, suf, rfl, fun v => ?_, ?_⟩
  · unfold assocSet
    rw [if_pos (by simp), List.map_append, List.map_cons, if_pos rfl]
    congr 1
    · exact (List.map_congr_left fun q hq => if_neg (hp q hq)).trans (List.map_id _)
    · congr 1
      exact (List.map_congr_left fun q hq => if_neg (hs q hq)).trans (List.map_id _)
  · unfold assocErase
    rw [List.filter_append, List.filter_cons_of_neg (by simp)]
    congr 1
    · exact List.filter_eq_self.mpr fun q hq => by simp [hp q hq]
    · exact List.filter_eq_self.mpr fun q hq => by simp [hs q hq]

theorem forall_assocSet {P : κ → ν → Prop} {l : List (κ × ν)} {k0 : κ} {v : ν}
    (h : ∀ k x, assocGet? l k = some x → P k x) (h0 : P k0 v) :
    ∀ k x, assocGet? (assocSet l k0 v) k = some x → P k x := by
  intro k x hx
  rw [assocGet?_assocSet] at hx
  by_cases e : k = k0
  · rw [if_pos e] at hx
    cases hx
    rw [e]
    exact h0
  · rw [if_neg e] at hx
    exact h k x hx

theorem forall_assocErase {P : κ → ν → Prop} {l : List (κ × ν)} {k0 : κ}
    (h : ∀ k x, assocGet? l k = some x → P k x) : ∀ k x, assocGet? (assocErase l k0) k = some x → P k x := by
  intro k x hx
  rw [assocGet?_assocErase] at hx
  by_cases e : k = k0
  · rw [if_pos e] at hx
    cases hx
  · rw [if_neg e] at hx
    exact h k x hx

theorem forall_keys_assocSet {Q : κ → Prop} {l : List (κ × ν)} {k0 : κ} {v : ν}
    (h : ∀ k, (assocGet? l k).isSome = true → Q k) (h0 : Q k0) :
    ∀ k, (assocGet? (assocSet l k0 v) k).isSome = true → Q k := by
  intro k hk
  obtain ⟨x, hx⟩ := Option.isSome_iff_exists.mp hk
  exact forall_assocSet (P := fun k _ => Q k) (fun k _ hx => h k (Option.isSome_of_eq_some hx)) h0 k x hx

theorem forall_keys_assocErase {Q : κ → Prop} {l : List (κ × ν)} {k0 : κ}
    (h : ∀ k, (assocGet? l k).isSome = true → Q k) : ∀ k, (assocGet? (assocErase l k0) k).isSome = true → Q k := by
  intro k hk
  obtain ⟨x, hx⟩ := Option.isSome_iff_exists.mp hk
  exact forall_assocErase (P := fun k _ => Q k) (fun k _ hx => h k (Option.isSome_of_eq_some hx)) k x hx

theorem getElem?_set' {α} (l : List α) (i j : Nat) (x : α) (h : i < l.length) :
    (l.set i x)[j]? = if j = i then some x else l[j]? := by
  by_cases e : j = i
  · rw [if_pos e, e, List.getElem?_set_self h]
  · rw [if_neg e, List.getElem?_set_ne (fun h => e h.symm)]

theorem getElem?_set_of_some {α} {l : List α} {i : Nat} {a : α} (h : l[i]? = some a) (x : α) (j : Nat) :
    (l.set i x)[j]? = if j = i then some x else l[j]? :=
  getElem?_set' l i j x (List.getElem?_eq_some_iff.mp h).1

theorem getElem?_append_singleton {α} (l : List α) (x : α) (j : Nat) :
    (l ++ [x])[j]? = if j = l.length then some x else l[j]? := by
  rw [List.getElem?_append]
  split
  · rw [if_neg (by omega)]
  · split
    · rw [‹j = l.length›, Nat.sub_self]; rfl
    · rw [List.getElem?_eq_none (by simp; omega), List.getElem?_eq_none (Nat.le_of_not_lt ‹_›)]

theorem split_at_mem {α} [DecidableEq α] (l : List α) (v : α) (hnd : l.Nodup) (hv : v ∈ l) :
    ∃ pre suf, l = pre ++ v :: suf ∧ v ∉ pre ∧ v ∉ suf ∧
      l.filter (fun x => x != v) = pre ++ suf ∧ l.findIdx? (fun x => x == v) = some pre.length := by
  induction l with
  | nil => cases hv
  | cons a as ih =>
    have hnd' := List.nodup_cons.mp hnd
    by_cases e : a = v
    · subst e
      refine ⟨[], as, rfl, by simp, hnd'.1, ?_, by simp [List.findIdx?_cons]⟩
      simp only [List.filter_cons, bne_self_eq_false, Bool.false_eq_true, ↓reduceIte, List.nil_append]
      rw [List.filter_eq_self]; intro x hx
      simp only [bne_iff_ne, ne_eq]; intro h; subst h; exact hnd'.1 hx
    · have hv' : v ∈ as := by
        cases hv with
        | head => exact absurd rfl e
        | tail _ h => exact h
      obtain ⟨pre, suf, h1, h2, h3, h4, h5⟩ := ih hnd'.2 hv'
      refine ⟨a :: pre, suf, by simp [h1], ?_, h3, ?_, ?_⟩
      · simp only [List.mem_cons, not_or]; exact ⟨fun h => e h.symm, h2⟩
      · have : (a != v) = true := by simp [e]
        simp only [List.filter_cons, this, ↓reduceIte, List.cons_append, h4]
      · have : (a == v) = false := by simp [e]
        simp [List.findIdx?_cons, this, h5]

end RSSched
