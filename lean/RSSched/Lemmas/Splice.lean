/-
Lemmas/Splice: adjacent-pair sums under splicing. `segTerm` is what `Tour::costs_of_segment` /
`dead_head_distance_of_segment` compute (links on both sides plus the inside, or the single link
when nothing is removed), so `delta_exact` is the statement that
`new = old − segment(old) + segment(new)` recomputes the sum, in truncated `Nat` arithmetic.
-/
namespace RSSched.Splice
variable {α : Type}

def pairSum (g : α → α → Nat) : List α → Nat
  | a :: b :: rest => g a b + pairSum g (b :: rest)
  | _ => 0

def conn (g : α → α → Nat) : Option α → Option α → Nat
  | some x, some y => g x y
  | _, _ => 0

theorem pairSum_append (g : α → α → Nat) (l1 l2 : List α) :
    pairSum g (l1 ++ l2) = pairSum g l1 + conn g l1.getLast? l2.head? + pairSum g l2 := by
  match l1, l2 with
  | [], _ => simp [pairSum, conn]
  | [_], [] => rfl
  | [_], _ :: _ => simp [pairSum, conn]
  | a :: b :: l1, l2 =>
    have ih := pairSum_append g (b :: l1) l2
    rw [List.cons_append] at ih
    simp only [List.cons_append, pairSum, ih, List.getLast?_cons_cons]
    omega

def segTerm (g : α → α → Nat) (pre mid suf : List α) : Nat :=
  match mid with
  | [] => conn g pre.getLast? suf.head?
  | _ => conn g pre.getLast? mid.head? + pairSum g mid + conn g mid.getLast? suf.head?

theorem pairSum_splice (g : α → α → Nat) (pre mid suf : List α) :
    pairSum g (pre ++ mid ++ suf) = pairSum g pre + segTerm g pre mid suf + pairSum g suf := by
  cases mid with
  | nil => simp [segTerm, pairSum_append]
  | cons m ms =>
    rw [List.append_assoc, pairSum_append, pairSum_append g (m :: ms) suf]
    simp [segTerm]
    omega

theorem delta_exact (g : α → α → Nat) (pre old new suf : List α) :
    pairSum g (pre ++ new ++ suf)
      = pairSum g (pre ++ old ++ suf) - segTerm g pre old suf + segTerm g pre new suf := by
  rw [pairSum_splice, pairSum_splice]; omega

def nodeSum (f : α → Nat) (l : List α) : Nat := (l.map f).foldr (· + ·) 0

theorem nodeSum_append (f : α → Nat) (l1 l2 : List α) :
    nodeSum f (l1 ++ l2) = nodeSum f l1 + nodeSum f l2 := by
  induction l1 with
  | nil => simp [nodeSum]
  | cons a as ih => simp [nodeSum] at ih ⊢; omega

theorem nodeSum_delta_exact (f : α → Nat) (pre old new suf : List α) :
    nodeSum f (pre ++ new ++ suf) = nodeSum f (pre ++ old ++ suf) - nodeSum f old + nodeSum f new := by
  simp only [nodeSum_append]; omega

end RSSched.Splice
