/-
Lemmas/Fault: inversion of the fault monad `R`. A successful run of a `do`-block is taken apart
one bind at a time with `bind_ok`, a guard that was passed with `else_ok`, a branch with `ite_ok`;
the other lemmas invert the small partial functions every operation is built from.
-/
import RSSched.Model.Tour
import RSSched.Model.Transition
namespace RSSched

theorem bind_ok {α β} {x : R α} {f : α → R β} {b : β} (h : (x >>= f) = .ok b) :
    ∃ a, x = .ok a ∧ f a = .ok b := by
  cases x with
  | error e => simp [bind, Except.bind] at h
  | ok a => exact ⟨a, rfl, h⟩

theorem ok_bind {α β} (a : α) (f : α → R β) : ((.ok a : R α) >>= f) = f a := rfl

theorem error_bind_ne {α β} {e : Fault} {k : α → R β} {b : β} :
    ((Except.error e : R α) >>= k) ≠ .ok b := nofun

theorem ite_bind {m : Type → Type} [Monad m] {α β : Type} (c : Prop) [Decidable c] (x y : m α) (f : α → m β) :
    (if c then x else y) >>= f = if c then x >>= f else y >>= f := by
  split <;> rfl

theorem else_ok {α} {c : Prop} [Decidable c] {e : Fault} {x : R α} {a : α}
    (h : (if c then .error e else x) = .ok a) : ¬ c ∧ x = .ok a := by
  split at h
  · cases h
  · exact ⟨‹_›, h⟩

theorem ite_ok {α} {c : Prop} [Decidable c] {x y : R α} {a : α} (h : (if c then x else y) = .ok a) :
    c ∧ x = .ok a ∨ ¬ c ∧ y = .ok a := by
  split at h
  · exact .inl ⟨‹_›, h⟩
  · exact .inr ⟨‹_›, h⟩

/-- one entry of a monitor of Spec/ (a list of complaints) -/
theorem ite_nil {α} {c : Prop} [Decidable c] {x : List α} (hx : x ≠ []) : (if c then [] else x) = [] ↔ c := by
  split <;> simp_all

theorem ite_none_some_ok {α β} {c : Prop} [Decidable c] {x : α} {p q : β} {o : Option α}
    (h : (if c then pure (none, p) else pure (some x, p) : R (Option α × β)) = .ok (o, q)) :
    q = p ∧ match (generalizing := false) o with
      | none => c
      | some y => ¬ c ∧ y = x := by
  rcases ite_ok h with ⟨hc, ⟨⟩⟩ | ⟨hc, ⟨⟩⟩
  · exact ⟨rfl, hc⟩
  · exact ⟨rfl, hc, rfl⟩

theorem unwrapO_ok {α} {o : Option α} {site : String} {a : α} (h : unwrapO o site = .ok a) : o = some a := by
  cases o with
  | none => simp [unwrapO] at h
  | some x => simp [unwrapO] at h; simp [h]

theorem unwrapR_ok {α} {r : R α} {site : String} {a : α} (h : unwrapR r site = .ok a) : r = .ok a := by
  cases r with
  | error e => simp [unwrapR] at h
  | ok x => simp [unwrapR] at h; simp [h]

theorem idxAt_inv {l : List Nat} {i x : Nat} (h : idxAt l i = .ok x) : l[i]? = some x := by
  unfold idxAt at h
  split at h
  · rename_i y hy; cases h; exact hy
  · cases h

theorem subNat_ok {a b c : Nat} {site : String} (h : Tour.subNat a b site = .ok c) : b ≤ a ∧ c = a - b := by
  unfold Tour.subNat at h
  split at h
  · cases h; exact ⟨‹_›, rfl⟩
  · cases h

theorem mapMR_map {α β γ} {f : α → R β} {g : β → γ} {h : α → γ} : ∀ {l : List α} {ys : List β},
    Tour.mapMR f l = .ok ys → (∀ x ∈ l, ∀ y, f x = .ok y → g y = h x) → ys.map g = l.map h
  | [], _, hm, _ => by cases hm; rfl
  | x :: xs, _, hm, hfg => by
    unfold Tour.mapMR at hm
    obtain ⟨y, hy, hm⟩ := bind_ok hm
    obtain ⟨ys', hys, hm⟩ := bind_ok hm
    cases hm
    rw [List.map_cons, List.map_cons, hfg x List.mem_cons_self y hy,
      mapMR_map hys fun z hz => hfg z (List.mem_cons_of_mem _ hz)]

theorem mapMR_ok {α β} {f : α → R β} {l : List α} {ys : List β} (hm : Tour.mapMR f l = .ok ys) :
    l.map f = ys.map .ok :=
  (mapMR_map hm fun _ _ _ e => e.symm).symm

theorem mapMR_mem {α β} {f : α → R β} {l : List α} {ys : List β} (hm : Tour.mapMR f l = .ok ys) :
    ∀ y ∈ ys, ∃ x ∈ l, f x = .ok y := by
  intro y hy
  have : Except.ok y ∈ l.map f := by rw [mapMR_ok hm]; exact List.mem_map_of_mem hy
  exact List.mem_map.mp this

theorem mapMR_eq_map {α β} {f : α → R β} {g : α → β} {l : List α} {ys : List β} (hm : Tour.mapMR f l = .ok ys)
    (hfg : ∀ x ∈ l, ∀ y, f x = .ok y → y = g x) : ys = l.map g := by
  rw [← List.map_id ys]
  exact mapMR_map hm hfg

theorem foldlM_induct {α β : Type} (F : β → α → R β) (J : β → Prop) :
    ∀ (L : List α) (b b' : β), (∀ a ∈ L, ∀ c c', J c → F c a = .ok c' → J c') → J b →
      L.foldlM F b = .ok b' → J b'
  | [], b, b', _, hJ, h => by
    simp only [List.foldlM_nil, pure, Except.pure, Except.ok.injEq] at h
    rw [← h]; exact hJ
  | x :: xs, b, b', hF, hJ, h => by
    rw [List.foldlM_cons] at h
    obtain ⟨b1, h1, h⟩ := bind_ok h
    exact foldlM_induct F J xs b1 b' (fun a ha => hF a (List.mem_cons_of_mem _ ha))
      (hF x (List.mem_cons_self ..) b b1 hJ h1) h

theorem foldlM_each {α β : Type} (F : β → α → R β) (P : α → Prop) (hF : ∀ c a c', F c a = .ok c' → P a) :
    ∀ (L : List α) (b b' : β), L.foldlM F b = .ok b' → ∀ a ∈ L, P a
  | [], _, _, _, a, ha => by cases ha
  | x :: xs, b, b', h, a, ha => by
    rw [List.foldlM_cons] at h
    obtain ⟨b1, h1, h⟩ := bind_ok h
    rcases List.mem_cons.mp ha with e | e
    · rw [e]; exact hF b x b1 h1
    · exact foldlM_each F P hF xs b1 b' h a e

end RSSched
