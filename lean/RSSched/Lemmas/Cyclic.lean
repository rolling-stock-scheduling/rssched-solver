/-
Lemmas/Cyclic: integer sums over the adjacent pairs of a list and over its *cyclic* pairs
(last → first closes the cycle; a one-element list has its self loop, the empty list sums to 0).
These are the sums a rotation cycle's maintenance counter consists of. Rotation invariance and
the insert / delete / re-link formulas are what `Transition::{update_vehicle, remove_vehicle,
add_vehicle_at_the_end}` and `TransitionCycle::three_opt` compute incrementally.
-/
namespace RSSched.Cyclic
variable {α : Type}

def pairSumI (g : α → α → Int) : List α → Int
  | a :: b :: rest => g a b + pairSumI g (b :: rest)
  | _ => 0

def connI (g : α → α → Int) : Option α → Option α → Int
  | some x, some y => g x y
  | _, _ => 0

def cyc (g : α → α → Int) (l : List α) : Int := pairSumI g l + connI g l.getLast? l.head?

@[simp] theorem pairSumI_nil (g : α → α → Int) : pairSumI g [] = 0 := rfl
@[simp] theorem pairSumI_single (g : α → α → Int) (a : α) : pairSumI g [a] = 0 := rfl
@[simp] theorem pairSumI_cons_cons (g : α → α → Int) (a b : α) (r : List α) :
    pairSumI g (a :: b :: r) = g a b + pairSumI g (b :: r) := rfl

theorem pairSumI_append (g : α → α → Int) (l1 l2 : List α) :
    pairSumI g (l1 ++ l2) = pairSumI g l1 + connI g l1.getLast? l2.head? + pairSumI g l2 := by
  match l1, l2 with
  | [], _ => simp [connI]
  | [_], [] => rfl
  | [_], _ :: _ => simp [connI]
  | a :: b :: l1, l2 =>
    have ih := pairSumI_append g (b :: l1) l2
    rw [List.cons_append] at ih
    simp only [List.cons_append, pairSumI_cons_cons, ih, List.getLast?_cons_cons]
    omega

@[simp] theorem cyc_nil (g : α → α → Int) : cyc g [] = 0 := rfl
@[simp] theorem cyc_single (g : α → α → Int) (a : α) : cyc g [a] = g a a := by simp [cyc, connI]

theorem getLast?_append_ne {l1 l2 : List α} (h : l2 ≠ []) : (l1 ++ l2).getLast? = l2.getLast? := by
  rw [List.getLast?_append, List.getLast?_eq_some_getLast h]; rfl

theorem head?_append_ne {l1 l2 : List α} (h : l1 ≠ []) : (l1 ++ l2).head? = l1.head? := by
  rw [List.head?_append, List.head?_eq_some_head h]; rfl

theorem cyc_rotate (g : α → α → Int) (l1 l2 : List α) : cyc g (l1 ++ l2) = cyc g (l2 ++ l1) := by
  cases l1 with
  | nil => simp
  | cons a as =>
    cases l2 with
    | nil => simp
    | cons b bs =>
      unfold cyc
      rw [pairSumI_append, pairSumI_append]
      rw [getLast?_append_ne (by simp), head?_append_ne (by simp)]
      rw [getLast?_append_ne (by simp), head?_append_ne (by simp)]
      omega

theorem cyc_cons (g : α → α → Int) (v : α) (rest : List α) (h : rest ≠ []) :
    cyc g (v :: rest) = connI g (some v) rest.head? + pairSumI g rest + connI g rest.getLast? (some v) := by
  cases rest with
  | nil => exact absurd rfl h
  | cons b bs =>
    unfold cyc
    simp only [pairSumI_cons_cons, List.head?_cons, List.getLast?_cons_cons, connI]

theorem cyc_remove (g : α → α → Int) (pre suf : List α) (v : α) (h : suf ++ pre ≠ []) :
    cyc g (pre ++ suf) = cyc g (pre ++ v :: suf)
      - connI g (suf ++ pre).getLast? (some v) - connI g (some v) (suf ++ pre).head?
      + connI g (suf ++ pre).getLast? (suf ++ pre).head? := by
  rw [cyc_rotate g pre (v :: suf), List.cons_append, cyc_cons g v _ h, cyc_rotate g pre suf]
  unfold cyc
  omega

theorem pairSumI_congr (g g' : α → α → Int) (l : List α)
    (h : ∀ a b, a ∈ l → b ∈ l → g a b = g' a b) : pairSumI g l = pairSumI g' l := by
  induction l with
  | nil => rfl
  | cons a as ih =>
    cases as with
    | nil => rfl
    | cons b bs =>
      simp only [pairSumI_cons_cons]
      rw [h a b (by simp) (by simp), ih (fun x y hx hy => h x y (by simp [hx]) (by simp [hy]))]

theorem cyc_congr (g g' : α → α → Int) (l : List α) (h : ∀ a b, a ∈ l → b ∈ l → g a b = g' a b) :
    cyc g l = cyc g' l := by
  unfold cyc
  rw [pairSumI_congr _ _ l h]
  congr 1
  cases hl : l.getLast? with
  | none => rfl
  | some x =>
    cases hh : l.head? with
    | none => rfl
    | some y => exact h x y (List.mem_of_getLast? hl) (List.mem_of_head? hh)

theorem sumInt_append (l1 l2 : List Int) :
    (l1 ++ l2).foldr (· + ·) 0 = l1.foldr (· + ·) 0 + l2.foldr (· + ·) 0 := by
  induction l1 with
  | nil => simp
  | cons a as ih => simp only [List.cons_append, List.foldr_cons, ih]; omega

theorem cyc3 (g : α → α → Int) (X B C : List α) (hX : X ≠ []) (hB : B ≠ []) (hC : C ≠ []) :
    cyc g (X ++ B ++ C) = pairSumI g X + connI g X.getLast? B.head? + pairSumI g B
      + connI g B.getLast? C.head? + pairSumI g C + connI g C.getLast? X.head? := by
  unfold cyc
  rw [pairSumI_append, pairSumI_append, getLast?_append_ne hB, getLast?_append_ne hC,
    head?_append_ne (by simp [hX]), head?_append_ne hX]

theorem cyc_swap_blocks (g : α → α → Int) (A B C D : List α) (hA : A ≠ []) (hB : B ≠ []) (hC : C ≠ []) :
    cyc g (A ++ C ++ B ++ D) = cyc g (A ++ B ++ C ++ D)
      - connI g A.getLast? B.head? - connI g B.getLast? C.head? - connI g C.getLast? (D ++ A).head?
      + connI g A.getLast? C.head? + connI g C.getLast? B.head? + connI g B.getLast? (D ++ A).head? := by
  have hr : ∀ P Q : List α, cyc g (A ++ P ++ Q ++ D) = cyc g (D ++ A ++ P ++ Q) := by
    intro P Q
    rw [cyc_rotate g (A ++ P ++ Q) D]
    simp only [List.append_assoc]
  have hDA : D ++ A ≠ [] := by simp [hA]
  rw [hr C B, hr B C, cyc3 g _ B C hDA hB hC, cyc3 g _ C B hDA hC hB, getLast?_append_ne hA]
  omega

theorem drop_eq_slice_append {β} (l : List β) {a n b : Nat} (h : a + n = b) :
    l.drop a = (l.drop a).take n ++ l.drop b := by
  rw [← h, ← List.drop_drop, List.take_append_drop]

theorem slice_ne_nil {β} (l : List β) {a n : Nat} (hn : 0 < n) (ha : a < l.length) : (l.drop a).take n ≠ [] := by
  intro e
  have := congrArg List.length e
  rw [List.length_take, List.length_drop] at this
  simp at this
  omega

theorem head?_slice {β} (l : List β) (a : Nat) {n : Nat} (hn : 0 < n) : ((l.drop a).take n).head? = l[a]? := by
  rw [List.head?_take, if_neg (by omega), List.head?_drop]

theorem getLast?_slice {β} (l : List β) {a n b : Nat} (ha : a ≤ b) (hn : a + n = b + 1) (hb : b < l.length) :
    ((l.drop a).take n).getLast? = l[b]? := by
  rw [List.getLast?_take, if_neg (by omega), List.getElem?_drop, show a + (n - 1) = b by omega,
    List.getElem?_eq_getElem hb]
  rfl

theorem threeOpt_split {β} (vs : List β) {i j k : Nat} (h1 : i ≤ j) (h2 : j ≤ k) :
    vs = vs.take (i + 1) ++ (vs.drop (i + 1)).take (j - i) ++ (vs.drop (j + 1)).take (k - j) ++ vs.drop (k + 1) := by
  rw [List.append_assoc, List.append_assoc,
    ← drop_eq_slice_append vs (show j + 1 + (k - j) = k + 1 by omega),
    ← drop_eq_slice_append vs (show i + 1 + (j - i) = j + 1 by omega), List.take_append_drop]

theorem threeOpt_perm {β} (vs : List β) {i j k : Nat} (h1 : i ≤ j) (h2 : j ≤ k) :
    (vs.take (i + 1) ++ (vs.drop (j + 1)).take (k - j) ++ (vs.drop (i + 1)).take (j - i) ++ vs.drop (k + 1)).Perm vs := by
  conv => rhs; rw [threeOpt_split vs h1 h2]
  simp only [List.append_assoc]
  apply List.Perm.append_left
  rw [← List.append_assoc, ← List.append_assoc]
  exact List.Perm.append_right _ List.perm_append_comm

/-- a 3-opt move `[..i] ++ (j..k] ++ (i..j] ++ (k..]` exchanges the links after `i`, `j`, `k` -/
theorem cyc_threeOpt (g : α → α → Int) (vs : List α) (i j k : Nat) (h1 : i < j) (h2 : j < k) (h3 : k < vs.length) :
    cyc g (vs.take (i + 1) ++ (vs.drop (j + 1)).take (k - j) ++ (vs.drop (i + 1)).take (j - i) ++ vs.drop (k + 1))
      = cyc g vs
        - connI g vs[i]? vs[i + 1]? - connI g vs[j]? vs[j + 1]? - connI g vs[k]? vs[(k + 1) % vs.length]?
        + connI g vs[i]? vs[j + 1]? + connI g vs[k]? vs[i + 1]? + connI g vs[j]? vs[(k + 1) % vs.length]? := by
  have hji := Nat.sub_pos_of_lt h1
  have hkj := Nat.sub_pos_of_lt h2
  have hA : vs.take (i + 1) ≠ [] := slice_ne_nil vs (a := 0) (Nat.succ_pos i) (by omega)
  have hAl : (vs.take (i + 1)).getLast? = vs[i]? := getLast?_slice vs (Nat.zero_le i) (Nat.zero_add _) (by omega)
  have hD : (vs.drop (k + 1) ++ vs.take (i + 1)).head? = vs[(k + 1) % vs.length]? := by
    by_cases hk : k + 1 = vs.length
    · rw [hk, List.drop_length, Nat.mod_self]
      exact head?_slice vs 0 (Nat.succ_pos i)
    · rw [head?_append_ne (by simp; omega), Nat.mod_eq_of_lt (by omega), List.head?_drop]
  have h := cyc_swap_blocks g _ _ _ (vs.drop (k + 1)) hA
    (slice_ne_nil vs (a := i + 1) hji (by omega)) (slice_ne_nil vs (a := j + 1) hkj (by omega))
  rw [← threeOpt_split vs (Nat.le_of_lt h1) (Nat.le_of_lt h2), hD, hAl, head?_slice vs _ hji,
    getLast?_slice vs (a := i + 1) h1 (by omega) (by omega), head?_slice vs _ hkj,
    getLast?_slice vs (a := j + 1) h2 (by omega) h3] at h
  exact h

end RSSched.Cyclic
