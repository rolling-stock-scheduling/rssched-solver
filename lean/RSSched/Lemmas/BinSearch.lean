/-
Lemmas/BinSearch: the two binary searches of `Tour` return the boundary of a monotone predicate,
and never fault on a non-empty in-range interval.
-/
import RSSched.Lemmas.TourOps
import RSSched.Props.C17
namespace RSSched
open Tour

theorem ExtTime.le_trans' {a b c : ExtTime} (h1 : ExtTime.le a b = true) (h2 : ExtTime.le b c = true) :
    ExtTime.le a c = true := C17.ExtTime.le_trans h1 h2

theorem ExtTime.lt_iff_not_le {a b : ExtTime} : ExtTime.lt a b = true ↔ ExtTime.le b a = false := by
  cases a <;> cases b <;> simp [ExtTime.le, ExtTime.lt] <;> omega

theorem ExtTime.not_lt_of_le {a b : ExtTime} (h : ExtTime.le a b = true) : ExtTime.lt b a = false := by
  cases hb : ExtTime.lt b a
  · rfl
  · rw [ExtTime.lt_iff_not_le.mp hb] at h; cases h

theorem ExtTime.lt_of_lt_of_le {a b c : ExtTime} (h1 : ExtTime.lt a b = true) (h2 : ExtTime.le b c = true) :
    ExtTime.lt a c = true := by
  rw [ExtTime.lt_iff_not_le] at h1 ⊢
  cases h : ExtTime.le c a
  · rfl
  · rw [C17.ExtTime.le_trans h2 h] at h1; cases h1

theorem ExtTime.lt_of_le_of_lt {a b c : ExtTime} (h1 : ExtTime.le a b = true) (h2 : ExtTime.lt b c = true) :
    ExtTime.lt a c = true := by
  rw [ExtTime.lt_iff_not_le] at h2 ⊢
  cases h : ExtTime.le c a
  · rfl
  · rw [C17.ExtTime.le_trans h h1] at h2; cases h2

def MonoEnd (nw : Network) (nodes : List Nat) : Prop :=
  ∀ i j, i ≤ j → j < nodes.length →
    ExtTime.le (nw.node (nodes.getD i 0)).endT (nw.node (nodes.getD j 0)).endT = true

def MonoStart (nw : Network) (nodes : List Nat) : Prop :=
  ∀ i j, i ≤ j → j < nodes.length →
    ExtTime.le (nw.node (nodes.getD i 0)).startT (nw.node (nodes.getD j 0)).startT = true

theorem mid_bounds {l r : Nat} (h : l + 1 < r) : l < l + (r - l) / 2 ∧ l + (r - l) / 2 < r := by omega

/-- `earliest_arrival_after` with the strict comparison (`strict = true`, the repaired code,
    finding F2): the first position in `[l, r)` whose node ends strictly after `time`, if any;
    it never faults. -/
theorem earliestArrivalAfter_spec (nw : Network) (nodes : List Nat) (time : ExtTime)
    (hm : MonoEnd nw nodes) (l r : Nat) (hlr : l < r) (hr : r ≤ nodes.length) :
    ∃ res, earliestArrivalAfter nw true nodes time l r = .ok res ∧
      (∀ p, res = some p → l ≤ p ∧ p < r ∧
          ExtTime.lt time (nw.node (nodes.getD p 0)).endT = true ∧
          ∀ q, l ≤ q → q < p → ExtTime.lt time (nw.node (nodes.getD q 0)).endT = false) ∧
      (res = none → ∀ q, l ≤ q → q < r → ExtTime.lt time (nw.node (nodes.getD q 0)).endT = false) := by
  fun_induction earliestArrivalAfter nw true nodes time l r with
  | case1 l after =>
    rw [idxAt_ok nodes l hr, ok_bind]
    simp only [after, ↓reduceDIte]
    cases ha : ExtTime.lt time (nw.node (nodes.getD l 0)).endT
    · refine ⟨none, rfl, nofun, fun _ q h2 h3 => ?_⟩
      rwa [Nat.le_antisymm (Nat.le_of_lt_succ h3) h2]
    · refine ⟨some l, rfl, ?_, nofun⟩
      rintro p ⟨⟩
      exact ⟨Nat.le_refl _, hlr, ha, fun q h2 h3 => absurd h2 (Nat.not_le_of_lt h3)⟩
  | case2 l r after h1 h2 mid ih1 ih2 =>
    obtain ⟨hm1, hm2⟩ : l < mid ∧ mid < r := mid_bounds h2
    clear_value mid
    have hm3 : l ≤ mid - 1 := Nat.le_sub_one_of_lt hm1
    have hm4 : mid - 1 < mid := Nat.sub_lt (Nat.zero_lt_of_lt hm1) Nat.one_pos
    have hm5 : mid - 1 < nodes.length := Nat.lt_trans hm4 (Nat.lt_of_lt_of_le hm2 hr)
    rw [idxAt_ok nodes (mid - 1) hm5, ok_bind]
    simp only [after, ↓reduceDIte]
    cases ha : ExtTime.lt time (nw.node (nodes.getD (mid - 1) 0)).endT
    · obtain ⟨res, he, hs, hn⟩ := ih2 hm2 hr
      have hlow : ∀ q, l ≤ q → q < mid → ExtTime.lt time (nw.node (nodes.getD q 0)).endT = false := by
        intro q hq1 hq2
        have hle := hm q (mid - 1) (Nat.le_sub_one_of_lt hq2) hm5
        cases hb : ExtTime.lt time (nw.node (nodes.getD q 0)).endT
        · rfl
        · rw [ExtTime.lt_of_lt_of_le hb hle] at ha; cases ha
      refine ⟨res, he, fun p hp => ?_, fun hnone q hq1 hq2 => ?_⟩
      · obtain ⟨a, b, c, d⟩ := hs p hp
        refine ⟨Nat.le_trans (Nat.le_of_lt hm1) a, b, c, fun q hq1 hq2 => ?_⟩
        by_cases hq : mid ≤ q
        · exact d q hq hq2
        · exact hlow q hq1 (Nat.lt_of_not_le hq)
      · by_cases hq : mid ≤ q
        · exact hn hnone q hq hq2
        · exact hlow q hq1 (Nat.lt_of_not_le hq)
    · obtain ⟨res, he, hs, hn⟩ := ih1 hm1 (Nat.le_trans (Nat.le_of_lt hm2) hr)
      refine ⟨res, he, fun p hp => ?_, fun hnone => ?_⟩
      · obtain ⟨a, b, c, d⟩ := hs p hp
        exact ⟨a, Nat.lt_trans b hm2, c, d⟩
      · rw [hn hnone (mid - 1) hm3 hm4] at ha; cases ha
  | case3 l r h1 h2 => omega

/-- `latest_departure_before`, likewise: the last position in `[l, r)` whose node starts strictly
    before `time`, if any; it never faults. -/
theorem latestDepartureBefore_spec (nw : Network) (nodes : List Nat) (time : ExtTime)
    (hm : MonoStart nw nodes) (l r : Nat) (hlr : l < r) (hr : r ≤ nodes.length) :
    ∃ res, latestDepartureBefore nw true nodes time l r = .ok res ∧
      (∀ p, res = some p → l ≤ p ∧ p < r ∧
          ExtTime.lt (nw.node (nodes.getD p 0)).startT time = true ∧
          ∀ q, p < q → q < r → ExtTime.lt (nw.node (nodes.getD q 0)).startT time = false) ∧
      (res = none → ∀ q, l ≤ q → q < r → ExtTime.lt (nw.node (nodes.getD q 0)).startT time = false) := by
  fun_induction latestDepartureBefore nw true nodes time l r with
  | case1 l before =>
    rw [idxAt_ok nodes l hr, ok_bind]
    simp only [before, ↓reduceDIte]
    cases ha : ExtTime.lt (nw.node (nodes.getD l 0)).startT time
    · refine ⟨none, rfl, nofun, fun _ q h2 h3 => ?_⟩
      rwa [Nat.le_antisymm (Nat.le_of_lt_succ h3) h2]
    · refine ⟨some l, rfl, ?_, nofun⟩
      rintro p ⟨⟩
      exact ⟨Nat.le_refl _, hlr, ha, fun q h2 h3 => absurd (Nat.le_of_lt_succ h3) (Nat.not_le_of_lt h2)⟩
  | case2 l r before h1 h2 mid ih2 ih1 =>
    obtain ⟨hm1, hm2⟩ : l < mid ∧ mid < r := mid_bounds h2
    clear_value mid
    rw [idxAt_ok nodes mid (Nat.lt_of_lt_of_le hm2 hr), ok_bind]
    simp only [before, ↓reduceDIte]
    cases ha : ExtTime.lt (nw.node (nodes.getD mid 0)).startT time
    · obtain ⟨res, he, hs, hn⟩ := ih1 hm1 (Nat.le_trans (Nat.le_of_lt hm2) hr)
      have hhigh : ∀ q, mid ≤ q → q < r → ExtTime.lt (nw.node (nodes.getD q 0)).startT time = false := by
        intro q hq1 hq2
        have hle := hm mid q hq1 (Nat.lt_of_lt_of_le hq2 hr)
        cases hb : ExtTime.lt (nw.node (nodes.getD q 0)).startT time
        · rfl
        · rw [ExtTime.lt_of_le_of_lt hle hb] at ha; cases ha
      refine ⟨res, he, fun p hp => ?_, fun hnone q hq1 hq2 => ?_⟩
      · obtain ⟨a, b, c, d⟩ := hs p hp
        refine ⟨a, Nat.lt_trans b hm2, c, fun q hq1 hq2 => ?_⟩
        by_cases hq : q < mid
        · exact d q hq1 hq
        · exact hhigh q (Nat.le_of_not_lt hq) hq2
      · by_cases hq : q < mid
        · exact hn hnone q hq1 hq
        · exact hhigh q (Nat.le_of_not_lt hq) hq2
    · obtain ⟨res, he, hs, hn⟩ := ih2 hm2 hr
      refine ⟨res, he, fun p hp => ?_, fun hnone => ?_⟩
      · obtain ⟨a, b, c, d⟩ := hs p hp
        exact ⟨Nat.le_trans (Nat.le_of_lt hm1) a, b, c, d⟩
      · rw [hn hnone mid (Nat.le_refl _) hm2] at ha; cases ha
  | case3 l r h1 h2 => omega

end RSSched
