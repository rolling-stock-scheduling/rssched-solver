/-
Lemmas/ScheduleOps: what a successful run of a schedule operation computed. A theorem `f_ok` for
every modification `f` of Model/Schedule.lean and for the helpers they call that are worth inverting
(`idsInsert`, `idsRemove`, `deleteDummy`, `updateTourAndCosts`, `updateTrainFormation` (one node),
`vehicleReplacement`, `addSuitableDepots`, `checkReceiverTypeCompat`, `updateTours`, `fitLoop` (one
round and an induction principle), `updateTransitionsFast` (one round), `improveDepotsOfTour`): from
`f … = .ok r` it gives the guards that passed, the calls in the order of the code with their
intermediate values, and `r` as a record update of `s`. The long ones return a record (`…Run`) whose
fields name those values and facts. Proofs about an operation start from its theorem here and need
not unfold it. The depot-usage functions are inverted in Props/C10Usage, `canDepotSpawn` and
`findBestStartDepot` in Props/C10Limits.

The model writes the loop bodies of the three operations that loop over vehicles as anonymous
functions. `takeOut`, `improveStep`, `greedyStep`, `endStep` below restate them, each with its own
theorem; `improveDepots_ok` and the two `reassignEndDepots…_ok` state the folds over these, which
are definitionally the model's. `applyOp_cases` is the case analysis of `applyOp`, `runOps_induct`
the induction over operation histories.
-/
import RSSched.Model.Ops
import RSSched.Lemmas.Fault
import RSSched.Lemmas.Assoc
namespace RSSched
open Schedule

namespace C09A
/-- the first loop of `improve_depots`, one vehicle -/
def takeOut (nw : Network) (s : Schedule) (u : DepotUsage) (v : Veh) : R DepotUsage := do
  let vt ← unwrapO (s.typeOf? v) "vehicle_type_of(vehicle_id).unwrap()"
  let t ← unwrapO (s.tourOf? v) "tour_of(vehicle_id).unwrap()"
  let sd ← Transition.startDepotU nw t
  let ed ← Transition.endDepotU nw t
  let d1 := nw.depotIdxOf sd
  let e1 ← unwrapO (assocGet? u (d1, vt)) "depot_usage.get_mut(..).unwrap()"
  if !(e1.1.contains v) then .error (.panic "depot_usage: remove(vehicle_id).unwrap()") else
  let u1 := assocSet u (d1, vt) (e1.1.filter (· != v), e1.2)
  let d2 := nw.depotIdxOf ed
  let e2 ← unwrapO (assocGet? u1 (d2, vt)) "depot_usage.get_mut(..).unwrap()"
  if !(e2.2.contains v) then .error (.panic "depot_usage: remove(vehicle_id).unwrap()") else
  pure (assocSet u1 (d2, vt) (e2.1, e2.2.filter (· != v)))

/-- the first loop of `improve_depots` -/
structure TakeOutRun (nw : Network) (s : Schedule) (u : DepotUsage) (v : Veh) where
  vt : Nat
  t : Tour
  sd : Nat
  ed : Nat
  startEntry : List Veh × List Veh
  endEntry : List Veh × List Veh
  type_eq : s.typeOf? v = some vt
  tour_eq : s.tourOf? v = some t
  start_eq : Transition.startDepotU nw t = .ok sd
  end_eq : Transition.endDepotU nw t = .ok ed
  startEntry_eq : assocGet? u (nw.depotIdxOf sd, vt) = some startEntry
  start_mem : startEntry.1.contains v = true
  endEntry_eq : assocGet? (assocSet u (nw.depotIdxOf sd, vt) (startEntry.1.filter (· != v), startEntry.2))
    (nw.depotIdxOf ed, vt) = some endEntry
  end_mem : endEntry.2.contains v = true

theorem takeOut_ok {nw : Network} {s : Schedule} {u u' : DepotUsage} {v : Veh} (h : takeOut nw s u v = .ok u') :
    ∃ r : TakeOutRun nw s u v,
      u' = assocSet (assocSet u (nw.depotIdxOf r.sd, r.vt) (r.startEntry.1.filter (· != v), r.startEntry.2))
        (nw.depotIdxOf r.ed, r.vt) (r.endEntry.1, r.endEntry.2.filter (· != v)) := by
  unfold takeOut at h
  obtain ⟨vt, hvt, h⟩ := bind_ok h
  obtain ⟨t, ht, h⟩ := bind_ok h
  obtain ⟨sd, hsd, h⟩ := bind_ok h
  obtain ⟨ed, hed, h⟩ := bind_ok h
  obtain ⟨e1, he1, h⟩ := bind_ok h
  split at h
  · cases h
  rename_i hc1
  obtain ⟨e2, he2, h⟩ := bind_ok h
  split at h
  · cases h
  rename_i hc2
  cases h
  exact ⟨⟨vt, t, sd, ed, e1, e2, unwrapO_ok hvt, unwrapO_ok ht, hsd, hed, unwrapO_ok he1, by simpa using hc1,
    unwrapO_ok he2, by simpa using hc2⟩, rfl⟩
end C09A

namespace C10L
abbrev Acc := Tours × DepotUsage × Nat

/-- the body of the second fold of `improve_depots` -/
def improveStep (nw : Network) (s : Schedule) (acc : Acc) (v : Veh) : R Acc := do
  let (tours, u, costs) := acc
  let t ← unwrapO (s.tourOf? v) "tour_of(vehicle_id).unwrap()"
  let vt ← unwrapO (s.typeOf? v) "vehicle_type_of(vehicle_id).unwrap()"
  let nt ← improveDepotsOfTour nw t vt u
  let c ← Tour.subNat (costs + nt.costs) t.costs "costs underflow"
  let sd ← Transition.startDepotU nw nt
  let ed ← Transition.endDepotU nw nt
  let u1 := usageModify u (nw.depotIdxOf sd) vt (fun p => (vehInsert p.1 v, p.2))
  let u2 := usageModify u1 (nw.depotIdxOf ed) vt (fun p => (p.1, vehInsert p.2 v))
  pure (assocSet tours v nt, u2, c)

/-- the body of the fold of `reassign_end_depots_greedily` -/
def greedyStep (nw : Network) (s : Schedule) (acc : Acc) (v : Veh) : R Acc := do
  let (tours, u, costs) := acc
  let t ← unwrapO (s.tourOf? v) "tour_of(vehicle_id).unwrap()"
  let lnd ← unwrapO (t.lastNonDepot nw) "last_non_depot().unwrap()"
  let ne ← match (nw.endDepotsSortedByDistanceFrom (nw.node lnd).endLoc).head? with
    | some d => pure d
    | none => .error (.err "Cannot find end depot for vehicle.")
  let nt ← unwrapR (t.replaceEndDepot nw ne) "replace_end_depot(..).unwrap()"
  let c ← Tour.subNat (costs + nt.costs) t.costs "costs underflow"
  let tours' := assocSet tours v nt
  let u' ← updateDepotUsage nw s u s.vehicles tours' v
  pure (tours', u', c)

/-- the second loop of `improve_depots` -/
structure ImproveStepRun (nw : Network) (s : Schedule) (acc : Acc) (v : Veh) where
  t : Tour
  vt : Nat
  nt : Tour
  sd : Nat
  ed : Nat
  tour_eq : s.tourOf? v = some t
  type_eq : s.typeOf? v = some vt
  improve_eq : improveDepotsOfTour nw t vt acc.2.1 = .ok nt
  costs_le : t.costs ≤ acc.2.2 + nt.costs
  start_eq : Transition.startDepotU nw nt = .ok sd
  end_eq : Transition.endDepotU nw nt = .ok ed

theorem improveStep_ok {nw : Network} {s : Schedule} {acc acc' : Acc} {v : Veh}
    (h : improveStep nw s acc v = .ok acc') :
    ∃ r : ImproveStepRun nw s acc v,
      acc' = (assocSet acc.1 v r.nt,
        usageModify (usageModify acc.2.1 (nw.depotIdxOf r.sd) r.vt (fun p => (vehInsert p.1 v, p.2)))
          (nw.depotIdxOf r.ed) r.vt (fun p => (p.1, vehInsert p.2 v)),
        acc.2.2 + r.nt.costs - r.t.costs) := by
  obtain ⟨tours, u, costs⟩ := acc
  unfold improveStep at h
  dsimp only at h
  obtain ⟨t, ht, h⟩ := bind_ok h
  obtain ⟨vt, hvt, h⟩ := bind_ok h
  obtain ⟨nt, hnt, h⟩ := bind_ok h
  obtain ⟨c, hc, h⟩ := bind_ok h
  obtain ⟨sd, hsd, h⟩ := bind_ok h
  obtain ⟨ed, hed, h⟩ := bind_ok h
  obtain ⟨hle, rfl⟩ := subNat_ok hc
  cases h
  exact ⟨⟨t, vt, nt, sd, ed, unwrapO_ok ht, unwrapO_ok hvt, hnt, hle, hsd, hed⟩, rfl⟩

/-- the loop of `reassign_end_depots_greedily` -/
structure GreedyStepRun (nw : Network) (s : Schedule) (acc : Acc) (v : Veh) where
  t : Tour
  lnd : Nat
  ne : Nat
  nt : Tour
  u' : DepotUsage
  tour_eq : s.tourOf? v = some t
  last_eq : t.lastNonDepot nw = some lnd
  depot_eq : (nw.endDepotsSortedByDistanceFrom (nw.node lnd).endLoc).head? = some ne
  replace_eq : t.replaceEndDepot nw ne = .ok nt
  costs_le : t.costs ≤ acc.2.2 + nt.costs
  usage_eq : updateDepotUsage nw s acc.2.1 s.vehicles (assocSet acc.1 v nt) v = .ok u'

theorem greedyStep_ok {nw : Network} {s : Schedule} {acc acc' : Acc} {v : Veh}
    (h : greedyStep nw s acc v = .ok acc') :
    ∃ r : GreedyStepRun nw s acc v, acc' = (assocSet acc.1 v r.nt, r.u', acc.2.2 + r.nt.costs - r.t.costs) := by
  obtain ⟨tours, u, costs⟩ := acc
  unfold greedyStep at h
  dsimp only at h
  obtain ⟨t, ht, h⟩ := bind_ok h
  obtain ⟨lnd, hlnd, h⟩ := bind_ok h
  split at h
  · rename_i ne hne
    obtain ⟨_, e, h⟩ := bind_ok h
    cases e
    obtain ⟨nt, hnt, h⟩ := bind_ok h
    obtain ⟨c, hc, h⟩ := bind_ok h
    obtain ⟨u', hu, h⟩ := bind_ok h
    obtain ⟨hle, rfl⟩ := subNat_ok hc
    cases h
    exact ⟨⟨t, lnd, ne, nt, u', unwrapO_ok ht, unwrapO_ok hlnd, hne, unwrapR_ok hnt, hle, hu⟩, rfl⟩
  · exact absurd h error_bind_ne
end C10L

namespace C05
/-- the body of the fold of `reassign_end_depots_consistent_with_transitions` -/
def endStep (nw : Network) (s : Schedule) (acc : Tours × DepotUsage × Nat) (v : Veh) : R (Tours × DepotUsage × Nat) := do
  let (tours, u, costs) := acc
  let t ← unwrapO (s.tourOf? v) "tour_of(vehicle).unwrap()"
  let vt ← unwrapO (s.typeOf? v) "vehicle_type_of(vehicle).unwrap()"
  let tr ← unwrapO (assocGet? s.transitions vt) "next_period_transitions.get(&vehicle_type).unwrap()"
  let next ← Transition.successorOf tr v
  let ntour ← unwrapO (s.tourOf? next) "tour_of(next_vehicle).unwrap()"
  let sd ← Transition.startDepotU nw ntour
  let ne := nw.endDepotNodeOf (nw.depotIdxOf sd)
  let nt ← unwrapR (t.replaceEndDepot nw ne) "replace_end_depot(..).unwrap()"
  let c ← Tour.subNat (costs + nt.costs) t.costs "costs underflow"
  let tours' := assocSet tours v nt
  let u' ← Schedule.updateDepotUsage nw s u s.vehicles tours' v
  pure (tours', u', c)

structure EndStepRun (nw : Network) (s : Schedule) (acc : Tours × DepotUsage × Nat) (v : Veh) where
  t : Tour
  vt : Nat
  tr : Transition
  next : Veh
  ntour : Tour
  sd : Nat
  nt : Tour
  u' : DepotUsage
  tour_eq : s.tourOf? v = some t
  type_eq : s.typeOf? v = some vt
  trans_eq : assocGet? s.transitions vt = some tr
  next_eq : Transition.successorOf tr v = .ok next
  ntour_eq : s.tourOf? next = some ntour
  start_eq : ntour.startDepot nw = .ok sd
  replace_eq : t.replaceEndDepot nw (nw.endDepotNodeOf (nw.depotIdxOf sd)) = .ok nt
  costs_le : t.costs ≤ acc.2.2 + nt.costs
  usage_eq : updateDepotUsage nw s acc.2.1 s.vehicles (assocSet acc.1 v nt) v = .ok u'

theorem endStep_ok {nw : Network} {s : Schedule} {acc acc' : Tours × DepotUsage × Nat} {v : Veh}
    (h : endStep nw s acc v = .ok acc') :
    ∃ r : EndStepRun nw s acc v, acc' = (assocSet acc.1 v r.nt, r.u', acc.2.2 + r.nt.costs - r.t.costs) := by
  obtain ⟨tours, u, costs⟩ := acc
  unfold endStep at h
  dsimp only at h
  obtain ⟨t, ht, h⟩ := bind_ok h
  obtain ⟨vt, hvt, h⟩ := bind_ok h
  obtain ⟨tr, htr, h⟩ := bind_ok h
  obtain ⟨next, hnext, h⟩ := bind_ok h
  obtain ⟨ntour, hntour, h⟩ := bind_ok h
  obtain ⟨sd, hsd, h⟩ := bind_ok h
  obtain ⟨nt, hnt, h⟩ := bind_ok h
  obtain ⟨c, hc, h⟩ := bind_ok h
  obtain ⟨u', hu, h⟩ := bind_ok h
  obtain ⟨hle, rfl⟩ := subNat_ok hc
  cases h
  exact ⟨⟨t, vt, tr, next, ntour, sd, nt, u', unwrapO_ok ht, unwrapO_ok hvt, unwrapO_ok htr, hnext,
    unwrapO_ok hntour, unwrapR_ok hsd, unwrapR_ok hnt, hle, hu⟩, rfl⟩
end C05

namespace C10L
/-- a fold whose every step writes one tour for its vehicle: each listed vehicle ends with a tour
    some step wrote for it, the others keep theirs -/
theorem foldlM_tours {F : Acc → Veh → R Acc} {Spec : Veh → Tour → Prop} :
    ∀ (L : List Veh) (acc acc' : Acc),
      (∀ c v c', v ∈ L → F c v = .ok c' → ∃ nt, c'.1 = assocSet c.1 v nt ∧ Spec v nt) →
      L.foldlM F acc = .ok acc' →
      (∀ v ∈ L, ∃ nt, Spec v nt ∧ assocGet? acc'.1 v = some nt) ∧
      (∀ w, w ∉ L → assocGet? acc'.1 w = assocGet? acc.1 w)
  | [], acc, acc', _, h => by
    cases h
    exact ⟨fun _ hv => (by cases hv), fun _ _ => rfl⟩
  | x :: xs, acc, acc', hF, h => by
    rw [List.foldlM_cons] at h
    obtain ⟨a1, h1, h⟩ := bind_ok h
    obtain ⟨nt, hset, hnt⟩ := hF acc x a1 List.mem_cons_self h1
    obtain ⟨ih1, ih2⟩ := foldlM_tours xs a1 acc' (fun c v c' hv => hF c v c' (List.mem_cons_of_mem _ hv)) h
    constructor
    · intro v hv
      by_cases hm : v ∈ xs
      · exact ih1 v hm
      · rcases List.mem_cons.mp hv with rfl | hv
        · exact ⟨nt, hnt, by rw [ih2 v hm, hset, get_set_self]⟩
        · exact absurd hv hm
    · intro w hw
      have hwx : w ≠ x := fun e => hw (by rw [e]; exact List.mem_cons_self)
      rw [ih2 w (fun hm => hw (List.mem_cons_of_mem _ hm)), hset, get_set_ne _ _ _ _ hwx]

/-- induction over a fold along a duplicate-free list whose steps write only the tour of their own
    vehicle: each step still finds the tour its vehicle has in `T0` -/
theorem foldlM_tours_induct {F : Acc → Veh → R Acc} {J : Acc → Prop} {T0 : Tours} :
    ∀ (L : List Veh) (acc acc' : Acc), L.Nodup → (∀ v ∈ L, assocGet? acc.1 v = assocGet? T0 v) →
      (∀ v ∈ L, ∀ c c', J c → assocGet? c.1 v = assocGet? T0 v → F c v = .ok c' →
        J c' ∧ ∃ nt, c'.1 = assocSet c.1 v nt) →
      J acc → L.foldlM F acc = .ok acc' → J acc'
  | [], acc, acc', _, _, _, hJ, h => by
    cases h
    exact hJ
  | x :: xs, acc, acc', hnd, hT, hF, hJ, h => by
    rw [List.foldlM_cons] at h
    obtain ⟨a1, h1, h⟩ := bind_ok h
    obtain ⟨hJ1, nt, hset⟩ := hF x List.mem_cons_self acc a1 hJ (hT x List.mem_cons_self) h1
    have hnd' := List.nodup_cons.mp hnd
    refine foldlM_tours_induct xs a1 acc' hnd'.2 (fun v hv => ?_)
      (fun v hv => hF v (List.mem_cons_of_mem _ hv)) hJ1 h
    have hne : v ≠ x := fun e => hnd'.1 (by rw [← e]; exact hv)
    rw [hset, get_set_ne _ _ _ _ hne]
    exact hT v (List.mem_cons_of_mem _ hv)
end C10L

namespace C02
/-- run a list of public modifications, stopping at the first refused / faulting one -/
def runOps (nw : Network) : Schedule → List Spec.SOp → Option Schedule
  | s, [] => some s
  | s, op :: rest =>
    match applyOp nw s op with
    | .ok r => runOps nw r.sched rest
    | .error _ => none
end C02

namespace Schedule
open C09A C10L C05

/-- `(dummy_tours, dummy_ids, counter, id of the new dummy)` after `path` is parked as a dummy
    tour; nothing changes when the path holds no service trip -/
def parkDummy (nw : Network) (dummyTours : Tours) (dummyIds : List Veh) (counter : Nat) (path : List Nat) :
    Tours × List Veh × Nat × Option Veh :=
  match Tour.newDummy nw path with
  | .ok dt =>
    ((addDummyTour dummyTours dummyIds (Veh.dum counter) dt).1,
     (addDummyTour dummyTours dummyIds (Veh.dum counter) dt).2, counter + 1, some (Veh.dum counter))
  | .error _ => (dummyTours, dummyIds, counter, none)

theorem parkDummy_cases (nw : Network) (dummyTours : Tours) (dummyIds : List Veh) (counter : Nat) (path : List Nat) :
    (∃ dt, Tour.newDummy nw path = .ok dt ∧ parkDummy nw dummyTours dummyIds counter path =
      ((addDummyTour dummyTours dummyIds (Veh.dum counter) dt).1,
       (addDummyTour dummyTours dummyIds (Veh.dum counter) dt).2, counter + 1, some (Veh.dum counter))) ∨
    parkDummy nw dummyTours dummyIds counter path = (dummyTours, dummyIds, counter, none) := by
  unfold parkDummy
  cases Tour.newDummy nw path with
  | ok dt => exact Or.inl ⟨dt, rfl, rfl⟩
  | error e => exact Or.inr rfl

theorem parkDummy_keeps {Q : Tours → Nat → Prop} {nw : Network} {dummyTours : Tours} {dummyIds : List Veh}
    {counter : Nat} {path : List Nat} (h : Q dummyTours counter)
    (hadd : ∀ dt, Tour.newDummy nw path = .ok dt → Q (assocSet dummyTours (Veh.dum counter) dt) (counter + 1)) :
    Q (parkDummy nw dummyTours dummyIds counter path).1 (parkDummy nw dummyTours dummyIds counter path).2.2.1 := by
  rcases parkDummy_cases nw dummyTours dummyIds counter path with ⟨dt, hdt, e⟩ | e
  · rw [e]
    exact hadd dt hdt
  · rw [e]
    exact h

theorem le_parkDummy_counter (nw : Network) (dummyTours : Tours) (dummyIds : List Veh) (counter : Nat)
    (path : List Nat) : counter ≤ (parkDummy nw dummyTours dummyIds counter path).2.2.1 :=
  parkDummy_keeps (Q := fun _ c => counter ≤ c) (Nat.le_refl _) (fun _ _ => Nat.le_succ _)

theorem idsInsert_ok {ids ids' : List (Nat × List Veh)} {vt : Nat} {v : Veh} (h : idsInsert ids vt v = .ok ids') :
    ∃ l, assocGet? ids vt = some l ∧ ids' = assocSet ids vt (insertSorted Veh.lt v l) := by
  unfold idsInsert at h
  obtain ⟨l, hl, h⟩ := bind_ok h
  cases h
  exact ⟨l, unwrapO_ok hl, rfl⟩

theorem idsRemove_ok {ids ids' : List (Nat × List Veh)} {vt : Nat} {v : Veh} (h : idsRemove ids vt v = .ok ids') :
    ∃ l, assocGet? ids vt = some l ∧ ids' = assocSet ids vt (l.filter (· != v)) := by
  unfold idsRemove at h
  obtain ⟨l, hl, h⟩ := bind_ok h
  split at h
  · cases h
  · cases h
    exact ⟨l, unwrapO_ok hl, rfl⟩

theorem deleteDummy_ok {s s1 : Schedule} {d : Veh} (h : deleteDummy s d = .ok s1) :
    s.isDummy d = true ∧ s.dummyIds.contains d = true ∧
    s1 = { s with dummyTours := assocErase s.dummyTours d, dummyIds := s.dummyIds.filter (· != d) } := by
  unfold deleteDummy at h
  split at h
  · cases h
  rename_i hd
  split at h
  · cases h
  rename_i hc
  cases h
  exact ⟨by simpa using hd, by simpa using hc, rfl⟩

theorem updateTourAndCosts_ok {s : Schedule} {tours dummyTours : Tours} {costs : Nat} {v : Veh} {t : Tour}
    {r : Tours × Tours × Nat} (h : updateTourAndCosts s tours dummyTours costs v t = .ok r) :
    (s.isDummy v = true ∧ r = (tours, assocSet dummyTours v t, costs)) ∨
    (s.isDummy v = false ∧ ∃ old, assocGet? tours v = some old ∧ old.costs ≤ costs + t.costs ∧
      r = (assocSet tours v t, dummyTours, costs + t.costs - old.costs)) := by
  unfold updateTourAndCosts at h
  split at h
  · cases h; exact Or.inl ⟨‹_›, rfl⟩
  · obtain ⟨old, hold, h⟩ := bind_ok h
    obtain ⟨c, hc, h⟩ := bind_ok h
    obtain ⟨hle, rfl⟩ := subNat_ok hc
    cases h
    exact Or.inr ⟨Bool.eq_false_iff.mpr ‹_›, old, unwrapO_ok hold, hle, rfl⟩

theorem utc_tours {s : Schedule} {tours dummyTours : Tours} {costs : Nat} {v : Veh} {t : Tour}
    {r : Tours × Tours × Nat} (h : updateTourAndCosts s tours dummyTours costs v t = .ok r) :
    r.1 = if s.isDummy v then tours else assocSet tours v t := by
  rcases updateTourAndCosts_ok h with ⟨hdm, rfl⟩ | ⟨hdm, _, -, -, rfl⟩
  · rw [if_pos hdm]
  · rw [hdm]
    rfl

theorem utc_tours_ne {s : Schedule} {tours dummyTours : Tours} {costs : Nat} {v : Veh} {t : Tour}
    {r : Tours × Tours × Nat} (h : updateTourAndCosts s tours dummyTours costs v t = .ok r) (w : Veh) (hw : w ≠ v) :
    assocGet? r.1 w = assocGet? tours w := by
  rcases updateTourAndCosts_ok h with ⟨-, rfl⟩ | ⟨-, _, -, -, rfl⟩
  · rfl
  · exact get_set_ne _ _ _ _ hw

theorem addChecked_ok {nw : Network} {node : Nat} {old f' : List Veh} {r : Veh}
    (h : vehicleReplacement.addChecked nw node old r = .ok f') :
    f' = Formation.addAtTail old r ∧ ((nw.node node).isMaint = true → old.length < (nw.node node).tracks) ∧
      ((nw.node node).isService = true → ∀ l, nw.maxFormationFor node = some l → old.length < l) := by
  obtain ⟨hfull, h⟩ := else_ok h
  obtain ⟨hlim, h⟩ := else_ok h
  cases h
  refine ⟨rfl, fun hm => ?_, fun hs l hl => ?_⟩
  · simpa [hm] using hfull
  · simpa [hs, hl] using hlim

theorem removeOnly_ok {s : Schedule} {old f' : List Veh} {provider : Option Veh}
    (h : vehicleReplacement.removeOnly s provider old = .ok f') :
    match provider.filter (!s.isDummy ·) with
    | some p => Formation.remove old p = .ok f'
    | none => f' = old := by
  cases provider with
  | none => exact (Except.ok.inj h).symm
  | some p =>
    unfold vehicleReplacement.removeOnly at h
    rw [Option.filter_some]
    dsimp only at h ⊢
    generalize s.isDummy p = dummy at h ⊢
    cases dummy
    · exact h
    · exact (Except.ok.inj h).symm

/-- `vehicle_replacement_in_train_formation`, by which of receiver and provider are real vehicles -/
theorem vehicleReplacement_ok {nw : Network} {s : Schedule} {forms : List (Nat × List Veh)}
    {provider receiver : Option Veh} {node : Nat} {f' : List Veh}
    (h : vehicleReplacement nw s forms provider receiver node = .ok f') :
    ∃ old, assocGet? forms node = some old ∧
      match receiver.filter (!s.isDummy ·) with
      | some r =>
        match provider.filter (!s.isDummy ·) with
        | some p => Formation.replace old p r = .ok f'
        | none => vehicleReplacement.addChecked nw node old r = .ok f'
      | none =>
        match provider.filter (!s.isDummy ·) with
        | some p => Formation.remove old p = .ok f'
        | none => f' = old := by
  unfold vehicleReplacement at h
  obtain ⟨old, hold, h⟩ := bind_ok h
  refine ⟨old, unwrapO_ok hold, ?_⟩
  cases receiver with
  | none => exact removeOnly_ok h
  | some r =>
    rw [Option.filter_some]
    dsimp only at h ⊢
    generalize s.isDummy r = dummy at h ⊢
    cases dummy
    · cases provider with
      | none => exact h
      | some p =>
        rw [Option.filter_some]
        dsimp only at h ⊢
        generalize s.isDummy p = dummy at h ⊢
        cases dummy
        · exact h
        · exact h
    · exact removeOnly_ok h

/-- one node of `update_train_formation` -/
theorem updateTrainFormation_cons_ok {nw : Network} {s : Schedule} {typeOf : Veh → Option Nat}
    {forms : List (Nat × List Veh)} {u : Nat × Nat} {provider receiver : Option Veh} {node : Nat}
    {rest : List Nat} {r : List (Nat × List Veh) × (Nat × Nat)}
    (h : updateTrainFormation nw s typeOf forms u provider receiver (node :: rest) = .ok r) :
    ((nw.node node).isDepot = true ∧ updateTrainFormation nw s typeOf forms u provider receiver rest = .ok r) ∨
    ((nw.node node).isDepot = false ∧ ∃ f' u1, vehicleReplacement nw s forms provider receiver node = .ok f' ∧
      (if (nw.node node).isService = true then ∃ old, assocGet? forms node = some old ∧
          (unservedOf nw typeOf node old).1 ≤ u.1 ∧ (unservedOf nw typeOf node old).2 ≤ u.2 ∧
          u1 = (u.1 - (unservedOf nw typeOf node old).1 + (unservedOf nw typeOf node f').1,
                u.2 - (unservedOf nw typeOf node old).2 + (unservedOf nw typeOf node f').2)
        else u1 = u) ∧
      updateTrainFormation nw s typeOf (assocSet forms node f') u1 provider receiver rest = .ok r) := by
  unfold updateTrainFormation at h
  split at h
  · exact Or.inl ⟨‹_›, h⟩
  rename_i hdep
  refine Or.inr ⟨Bool.eq_false_iff.mpr hdep, ?_⟩
  dsimp only at h
  split at h
  · rename_i hsvc
    obtain ⟨old, hold, h⟩ := bind_ok h
    obtain ⟨a, ha, h⟩ := bind_ok h
    obtain ⟨c, hc, h⟩ := bind_ok h
    obtain ⟨u1, hu1, h⟩ := bind_ok h
    obtain ⟨f', hf', h⟩ := bind_ok h
    cases hu1
    obtain ⟨hle1, rfl⟩ := subNat_ok ha
    obtain ⟨hle2, rfl⟩ := subNat_ok hc
    exact ⟨f', _, hf', by rw [if_pos hsvc]; exact ⟨old, unwrapO_ok hold, hle1, hle2, rfl⟩, h⟩
  · rename_i hsvc
    obtain ⟨u1, hu1, h⟩ := bind_ok h
    obtain ⟨f', hf', h⟩ := bind_ok h
    cases hu1
    exact ⟨f', _, hf', by rw [if_neg hsvc], h⟩

/-- one round of `update_transitions_and_violation_fast` for the real vehicle `v`: the record of its
    type and the map `updated` before and after -/
inductive RoundDone (nw : Network) (s : Schedule) (vehicles : List (Veh × Nat)) (tours : Tours) (v : Veh)
    (old : Transition) (updated : Tours) : Transition → Tours → Prop
  | updateVehicle {nt : Tour} {new : Transition} : s.isVehicle v = true → (assocGet? vehicles v).isSome = true →
      assocGet? tours v = some nt → Transition.updateVehicle nw old v nt updated s.tours = .ok new →
      RoundDone nw s vehicles tours v old updated new (assocSet updated v nt)
  | addVehicleToOwnCycle {nt : Tour} {new : Transition} : s.isVehicle v = false →
      (assocGet? vehicles v).isSome = true → assocGet? tours v = some nt →
      Transition.addVehicleToOwnCycle nw old v nt = .ok new →
      RoundDone nw s vehicles tours v old updated new (assocSet updated v nt)
  | removeVehicle {new : Transition} : s.isVehicle v = true → (assocGet? vehicles v).isSome = false →
      Transition.removeVehicle nw old v updated s.tours = .ok new →
      RoundDone nw s vehicles tours v old updated new updated

theorem updateTransitionsFast_cons_ok {nw : Network} {s : Schedule} {vehicles : List (Veh × Nat)}
    {tours updated : Tours} {v : Veh} {rest : List Veh} {trans : List (Nat × Transition)} {viol : Int}
    {r : List (Nat × Transition) × Int}
    (h : updateTransitionsFast nw s vehicles tours (v :: rest) updated trans viol = .ok r) :
    (v.dummy = true ∧ updateTransitionsFast nw s vehicles tours rest updated trans viol = .ok r) ∨
    ∃ vt old new updated', typeIn vehicles s v = some vt ∧ assocGet? trans vt = some old ∧
      RoundDone nw s vehicles tours v old updated new updated' ∧
      updateTransitionsFast nw s vehicles tours rest updated' (assocSet trans vt new)
        (viol + new.totalViolation - old.totalViolation) = .ok r := by
  unfold updateTransitionsFast at h
  split at h
  · exact Or.inl ⟨‹_›, h⟩
  obtain ⟨vt, hvt, h⟩ := bind_ok h
  obtain ⟨old, hold, h⟩ := bind_ok h
  have hvt := unwrapO_ok hvt
  have hold := unwrapO_ok hold
  dsimp only at h
  split at h
  · obtain ⟨nt, hnt, h⟩ := bind_ok h
    obtain ⟨new, hnew, h⟩ := bind_ok h
    exact Or.inr ⟨vt, old, new, _, hvt, hold, .updateVehicle ‹_› ‹_› (unwrapO_ok hnt) hnew, h⟩
  · obtain ⟨nt, hnt, h⟩ := bind_ok h
    obtain ⟨new, hnew, h⟩ := bind_ok h
    exact Or.inr ⟨vt, old, new, _, hvt, hold, .addVehicleToOwnCycle ‹_› ‹_› (unwrapO_ok hnt) hnew, h⟩
  · obtain ⟨new, hnew, h⟩ := bind_ok h
    exact Or.inr ⟨vt, old, new, _, hvt, hold, .removeVehicle ‹_› ‹_› hnew, h⟩
  · exact absurd h error_bind_ne

/-- `add_suitable_start_and_end_depot_to_path`; the left disjunct is the overflow depot -/
theorem addSuitableDepots_ok {nw : Network} {s : Schedule} {vt : Nat} {path nodes : List Nat}
    (h : addSuitableDepots nw s vt path = .ok nodes) :
    ∃ first last, path.head? = some first ∧ path.getLast? = some last ∧
      ((nw.node first).isDepot = true ∧ canDepotSpawn nw s.depotUsage first vt = false ∧
        nodes = (if (nw.node last).isDepot = true then
            (path.set 0 (nw.startDepotNodeOf nw.overflowDepot)).set (path.length - 1)
              (nw.endDepotNodeOf nw.overflowDepot)
          else path.set 0 (nw.startDepotNodeOf nw.overflowDepot) ++ [nw.endDepotNodeOf nw.overflowDepot]) ∨
       ∃ pre suf, nodes = pre ++ path ++ suf ∧
        ((nw.node first).isDepot = true ∧ canDepotSpawn nw s.depotUsage first vt = true ∧ pre = [] ∨
         (nw.node first).isDepot = false ∧ ∃ d, findBestStartDepot nw s.depotUsage vt first = .ok d ∧ pre = [d]) ∧
        ((nw.node last).isDepot = true ∧ suf = [] ∨
         (nw.node last).isDepot = false ∧ ∃ d, findBestEndDepot nw last = .ok d ∧ suf = [d])) := by
  unfold addSuitableDepots at h
  obtain ⟨first, hfirst, h⟩ := bind_ok h
  obtain ⟨last, hlast, h⟩ := bind_ok h
  refine ⟨first, last, unwrapO_ok hfirst, unwrapO_ok hlast, ?_⟩
  rcases ite_ok h with ⟨hovf, h⟩ | ⟨hovf, h⟩
  · rw [Bool.and_eq_true, Bool.not_eq_true'] at hovf
    refine Or.inl ⟨hovf.1, hovf.2, ?_⟩
    rcases ite_ok h with ⟨hl, ⟨⟩⟩ | ⟨hl, ⟨⟩⟩
    · rw [if_pos hl, List.length_set]
    · rw [if_neg hl]
  · -- `ends n1` is the code that follows the choice of the start depot
    extract_lets ends at h
    obtain ⟨pre, hpre, h⟩ : ∃ pre,
        ((nw.node first).isDepot = true ∧ canDepotSpawn nw s.depotUsage first vt = true ∧ pre = [] ∨
         (nw.node first).isDepot = false ∧ ∃ d, findBestStartDepot nw s.depotUsage vt first = .ok d ∧ pre = [d]) ∧
        ends (pre ++ path) = .ok nodes := by
      rcases ite_ok h with ⟨hf, h⟩ | ⟨hf, h⟩
      · obtain ⟨d, hd, h⟩ := bind_ok h
        exact ⟨[d], Or.inr ⟨by simpa using hf, d, hd, rfl⟩, h⟩
      · have hdep : (nw.node first).isDepot = true := by simpa using hf
        exact ⟨[], Or.inl ⟨hdep, by simpa [hdep] using hovf, rfl⟩, h⟩
    dsimp only [ends] at h
    rcases ite_ok h with ⟨hl, h⟩ | ⟨hl, ⟨⟩⟩
    · obtain ⟨d, hd, ⟨⟩⟩ := bind_ok h
      exact Or.inr ⟨pre, [d], rfl, hpre, Or.inr ⟨by simpa using hl, d, hd, rfl⟩⟩
    · exact Or.inr ⟨pre, [], (List.append_nil _).symm, hpre, Or.inl ⟨by simpa using hl, rfl⟩⟩

/-- `spawn_vehicle_for_path` -/
structure SpawnRun (nw : Network) (s : Schedule) (vt : Nat) (path : List Nat) (v : Veh) where
  nodes : List Nat
  tour : Tour
  ids : List (Nat × List Veh)
  forms : List (Nat × List Veh)
  unserved : Nat × Nat
  usage : DepotUsage
  trans : List (Nat × Transition)
  viol : Int
  compat : path.any (fun n => !(nw.compatibleWithType n vt)) = false
  nodes_eq : addSuitableDepots nw s vt path = .ok nodes
  tour_eq : Tour.new nw nodes = .ok tour
  ids_eq : idsInsert s.idsByType vt v = .ok ids
  forms_eq : updateTrainFormation nw s (typeIn (assocSet s.vehicles v vt) s) s.formations s.unserved none
    (some v) tour.nodes = .ok (forms, unserved)
  usage_eq : updateDepotUsage nw s s.depotUsage (assocSet s.vehicles v vt) (assocSet s.tours v tour) v
    = .ok usage
  trans_eq : updateTransitionsFast nw s (assocSet s.vehicles v vt) (assocSet s.tours v tour) [v] []
    s.transitions s.violation = .ok (trans, viol)
  veh_eq : v = Veh.real s.counter

theorem spawnVehicleForPath_ok {nw : Network} {s s' : Schedule} {vt : Nat} {path : List Nat} {v : Veh}
    (h : spawnVehicleForPath nw s vt path = .ok (s', v)) :
    ∃ r : SpawnRun nw s vt path v,
      s' = { s with vehicles := assocSet s.vehicles v vt, tours := assocSet s.tours v r.tour,
                    transitions := r.trans, formations := r.forms, depotUsage := r.usage,
                    counter := s.counter + 1, idsByType := r.ids, unserved := r.unserved, violation := r.viol,
                    costs := s.costs + r.tour.costs } := by
  unfold spawnVehicleForPath at h
  split at h
  · cases h
  obtain ⟨nodes, hnodes, h⟩ := bind_ok h
  obtain ⟨tour, htour, h⟩ := bind_ok h
  obtain ⟨ids, hids, h⟩ := bind_ok h
  obtain ⟨⟨forms, unserved⟩, hf, h⟩ := bind_ok h
  obtain ⟨usage, hu, h⟩ := bind_ok h
  obtain ⟨⟨trans, viol⟩, ht, h⟩ := bind_ok h
  cases h
  exact ⟨⟨nodes, tour, ids, forms, unserved, usage, trans, viol, Bool.eq_false_iff.mpr ‹_›, hnodes, htour, hids,
    hf, hu, ht, rfl⟩, rfl⟩

theorem spawnToReplaceDummy_ok {nw : Network} {s s' : Schedule} {d : Veh} {vt : Nat} {v : Veh}
    (h : spawnToReplaceDummy nw s d vt = .ok (s', v)) :
    ∃ t s1, assocGet? s.dummyTours d = some t ∧
      t.nodes.any (fun n => !(nw.compatibleWithType n vt)) = false ∧
      deleteDummy s d = .ok s1 ∧ spawnVehicleForPath nw s1 vt t.nodes = .ok (s', v) := by
  unfold spawnToReplaceDummy at h
  cases ht : assocGet? s.dummyTours d with
  | none => rw [ht] at h; exact absurd h error_bind_ne
  | some t =>
    rw [ht] at h
    obtain ⟨_, e, h⟩ := bind_ok h
    cases e
    dsimp only at h
    split at h
    · cases h
    obtain ⟨s1, hs1, h⟩ := bind_ok h
    exact ⟨t, s1, rfl, Bool.eq_false_iff.mpr ‹_›, hs1, h⟩

/-- `replace_vehicle_by_dummy` -/
structure DeleteRun (nw : Network) (s : Schedule) (v : Veh) where
  vt : Nat
  ids : List (Nat × List Veh)
  tour : Tour
  forms : List (Nat × List Veh)
  unserved : Nat × Nat
  usage : DepotUsage
  f : Nat
  l : Nat
  sub : List Nat
  trans : List (Nat × Transition)
  viol : Int
  type_eq : s.typeOf? v = some vt
  ids_eq : idsRemove s.idsByType vt v = .ok ids
  tour_eq : assocGet? s.tours v = some tour
  forms_eq : updateTrainFormation nw s (typeIn (assocErase s.vehicles v) s) s.formations s.unserved (some v)
    none tour.nodes = .ok (forms, unserved)
  usage_eq : updateDepotUsage nw s s.depotUsage (assocErase s.vehicles v) (assocErase s.tours v) v = .ok usage
  costs_le : tour.costs ≤ s.costs
  first_eq : tour.firstNode = .ok f
  last_eq : tour.lastNode = .ok l
  sub_eq : Tour.subPath nw tour f l = .ok sub
  trans_eq : updateTransitionsFast nw s (assocErase s.vehicles v) (assocErase s.tours v) [v] [] s.transitions
    s.violation = .ok (trans, viol)

theorem replaceVehicleByDummy_ok {nw : Network} {s s' : Schedule} {v : Veh}
    (h : replaceVehicleByDummy nw s v = .ok s') :
    ∃ r : DeleteRun nw s v,
      s' = { s with vehicles := assocErase s.vehicles v, tours := assocErase s.tours v, transitions := r.trans,
                    formations := r.forms, depotUsage := r.usage,
                    dummyTours := (parkDummy nw s.dummyTours s.dummyIds s.counter r.sub).1,
                    counter := (parkDummy nw s.dummyTours s.dummyIds s.counter r.sub).2.2.1, idsByType := r.ids,
                    dummyIds := (parkDummy nw s.dummyTours s.dummyIds s.counter r.sub).2.1,
                    unserved := r.unserved, violation := r.viol, costs := s.costs - r.tour.costs } := by
  unfold replaceVehicleByDummy at h
  split at h
  · cases h
  cases hvt : s.typeOf? v with
  | none => rw [hvt] at h; exact absurd h error_bind_ne
  | some vt =>
    rw [hvt] at h
    obtain ⟨_, e, h⟩ := bind_ok h
    cases e
    obtain ⟨ids, hids, h⟩ := bind_ok h
    obtain ⟨tour, htour, h⟩ := bind_ok h
    obtain ⟨⟨forms, unserved⟩, hf, h⟩ := bind_ok h
    obtain ⟨usage, hu, h⟩ := bind_ok h
    obtain ⟨costs, hc, h⟩ := bind_ok h
    obtain ⟨f, hfirst, h⟩ := bind_ok h
    obtain ⟨l, hlast, h⟩ := bind_ok h
    obtain ⟨hle, rfl⟩ := subNat_ok hc
    dsimp only at h
    cases hsub : Tour.subPath nw tour f l with
    | error e =>
      rw [hsub] at h
      cases e <;> exact absurd h error_bind_ne
    | ok sub =>
      rw [hsub] at h
      obtain ⟨_, e, h⟩ := bind_ok h
      cases e
      cases hnd : Tour.newDummy nw sub <;> rw [hnd] at h <;>
      · obtain ⟨⟨trans, viol⟩, ht, h⟩ := bind_ok h
        cases h
        exact ⟨⟨vt, ids, tour, forms, unserved, usage, f, l, sub, trans, viol, hvt, hids, unwrapO_ok htour,
          hf, hu, hle, hfirst, hlast, hsub, ht⟩, by simp only [parkDummy, hnd]⟩

/-- `add_path_to_vehicle_tour` -/
structure AddPathRun (nw : Network) (s : Schedule) (v : Veh) (path : List Nat) (rm : Option (List Nat)) where
  first : Nat
  forms1 : List (Nat × List Veh)
  un1 : Nat × Nat
  old : Tour
  newTour : Tour
  forms : List (Nat × List Veh)
  unserved : Nat × Nat
  usage : DepotUsage
  trans : List (Nat × Transition)
  viol : Int
  compat : ∀ vt, s.typeOf? v = some vt → path.any (fun n => !(nw.compatibleWithType n vt)) = false
  first_eq : path[0]? = some first
  guard : (nw.node first).isDepot = true → ∃ t oldStart, s.tourOf? v = some t ∧
    Transition.startDepotU nw t = .ok oldStart ∧
    (first = oldStart ∨ ∃ vt, s.typeOf? v = some vt ∧ canDepotSpawn nw s.depotUsage first vt = true)
  isVeh : s.isVehicle v = true
  forms1_eq : updateTrainFormation nw s (typeIn s.vehicles s) s.formations s.unserved none (some v) path
    = .ok (forms1, un1)
  old_eq : assocGet? s.tours v = some old
  insert_eq : Tour.insertPath nw true old path = .ok (newTour, rm)
  forms_eq : (match rm with
    | some rp => updateTrainFormation nw s (typeIn s.vehicles s) forms1 un1 (some v) none rp
    | none => .ok (forms1, un1)) = .ok (forms, unserved)
  costs_le : old.costs ≤ s.costs + newTour.costs
  usage_eq : updateDepotUsage nw s s.depotUsage s.vehicles (assocSet s.tours v newTour) v = .ok usage
  trans_eq : updateTransitionsFast nw s s.vehicles (assocSet s.tours v newTour) [v] [] s.transitions
    s.violation = .ok (trans, viol)

theorem addPathToVehicleTour_ok {nw : Network} {s s' : Schedule} {v : Veh} {path : List Nat}
    {rm : Option (List Nat)} (h : addPathToVehicleTour nw s v path = .ok (s', rm)) :
    ∃ r : AddPathRun nw s v path rm,
      s' = { s with tours := assocSet s.tours v r.newTour, transitions := r.trans, formations := r.forms,
                    depotUsage := r.usage, unserved := r.unserved, violation := r.viol,
                    costs := s.costs + r.newTour.costs - r.old.costs } := by
  unfold addPathToVehicleTour at h
  -- `body` is the code after the two checks, `checked` the capacity check followed by `body`
  extract_lets body checked at h
  obtain ⟨hcompat, h⟩ : (∀ vt, s.typeOf? v = some vt → path.any (fun n => !nw.compatibleWithType n vt) = false) ∧
      checked () = .ok (s', rm) := by
    split at h
    · rename_i vt hvt
      split at h
      · exact absurd h error_bind_ne
      · rename_i hc
        exact ⟨fun vt' e => by rw [hvt] at e; cases e; exact Bool.eq_false_iff.mpr hc, h⟩
    · rename_i hvt
      exact ⟨fun vt' e => (by rw [hvt] at e; cases e), h⟩
  obtain ⟨first, hfirst, h⟩ := bind_ok h
  obtain ⟨hguard, h⟩ : ((nw.node first).isDepot = true → ∃ t oldStart, s.tourOf? v = some t ∧
        Transition.startDepotU nw t = .ok oldStart ∧
        (first = oldStart ∨ ∃ vt, s.typeOf? v = some vt ∧ canDepotSpawn nw s.depotUsage first vt = true)) ∧
      body () = .ok (s', rm) := by
    split at h
    · obtain ⟨t, ht, h⟩ := bind_ok h
      obtain ⟨oldStart, ho, h⟩ := bind_ok h
      split at h
      · obtain ⟨vt, hvt, h⟩ := bind_ok h
        split at h
        · exact absurd h error_bind_ne
        · rename_i hc
          exact ⟨fun _ => ⟨t, oldStart, unwrapO_ok ht, ho, Or.inr ⟨vt, unwrapO_ok hvt, by simpa using hc⟩⟩, h⟩
      · rename_i hne
        exact ⟨fun _ => ⟨t, oldStart, unwrapO_ok ht, ho, Or.inl (by simpa using hne)⟩, h⟩
    · rename_i hnd
      exact ⟨fun hd => absurd hd hnd, h⟩
  dsimp only [body] at h
  split at h
  · cases h
  rename_i hv
  obtain ⟨⟨forms1, un1⟩, hf1, h⟩ := bind_ok h
  obtain ⟨old, hold, h⟩ := bind_ok h
  obtain ⟨⟨newTour, removed⟩, hins, h⟩ := bind_ok h
  dsimp only at h
  cases removed <;>
  · obtain ⟨⟨forms, unserved⟩, hf2, h⟩ := bind_ok h
    obtain ⟨costs, hc, h⟩ := bind_ok h
    obtain ⟨usage, hu, h⟩ := bind_ok h
    obtain ⟨⟨trans, viol⟩, ht, h⟩ := bind_ok h
    obtain ⟨hle, rfl⟩ := subNat_ok hc
    cases h
    exact ⟨⟨first, forms1, un1, old, newTour, forms, unserved, usage, trans, viol, hcompat, idxAt_inv hfirst,
      hguard, by simpa using hv, hf1, unwrapO_ok hold, hins, hf2, hle, hu, ht⟩, rfl⟩

/-- `remove_segment` when a tour `newTour` is left to the vehicle -/
structure ShrinkRun (nw : Network) (s : Schedule) (v : Veh) (removed : List Nat) (newTour : Tour) where
  forms : List (Nat × List Veh)
  unserved : Nat × Nat
  tours : Tours
  dummy0 : Tours
  costs : Nat
  usage : DepotUsage
  trans : List (Nat × Transition)
  viol : Int
  forms_eq : updateTrainFormation nw s (typeIn s.vehicles s) s.formations s.unserved (some v) none removed
    = .ok (forms, unserved)
  tours_eq : updateTourAndCosts s s.tours s.dummyTours s.costs v newTour = .ok (tours, dummy0, costs)
  usage_eq : updateDepotUsage nw s s.depotUsage s.vehicles tours v = .ok usage
  trans_eq : updateTransitionsFast nw s s.vehicles tours [v] [] s.transitions s.violation = .ok (trans, viol)

theorem removeSegment_ok {nw : Network} {s s' : Schedule} {v : Veh} {a b : Nat}
    (h : removeSegment nw s v a b = .ok s') :
    ∃ tour shrunk removed, s.isVehicle v = true ∧ s.tourOf? v = some tour ∧
      Tour.remove nw tour a b = .ok (shrunk, removed) ∧
      match shrunk with
      | none => replaceVehicleByDummy nw s v = .ok s'
      | some newTour => ∃ r : ShrinkRun nw s v removed newTour,
          s' = { s with tours := r.tours, transitions := r.trans, formations := r.forms, depotUsage := r.usage,
                        dummyTours := (parkDummy nw r.dummy0 s.dummyIds s.counter removed).1,
                        counter := (parkDummy nw r.dummy0 s.dummyIds s.counter removed).2.2.1,
                        dummyIds := (parkDummy nw r.dummy0 s.dummyIds s.counter removed).2.1,
                        unserved := r.unserved, violation := r.viol, costs := r.costs } := by
  unfold removeSegment at h
  split at h
  · cases h
  rename_i hv
  obtain ⟨tour, htour, h⟩ := bind_ok h
  obtain ⟨⟨shrunk, removed⟩, hrem, h⟩ := bind_ok h
  refine ⟨tour, shrunk, removed, by simpa using hv, unwrapO_ok htour, hrem, ?_⟩
  cases shrunk with
  | none => exact h
  | some newTour =>
    dsimp only at h ⊢
    obtain ⟨⟨forms, unserved⟩, hf, h⟩ := bind_ok h
    obtain ⟨⟨tours, dummy0, costs⟩, hutc, h⟩ := bind_ok h
    obtain ⟨usage, hu, h⟩ := bind_ok h
    dsimp only at h
    cases hnd : Tour.newDummy nw removed <;> rw [hnd] at h <;>
    · obtain ⟨⟨trans, viol⟩, ht, h⟩ := bind_ok h
      cases h
      exact ⟨⟨forms, unserved, tours, dummy0, costs, usage, trans, viol, hf, hutc, hu, ht⟩,
        by simp only [parkDummy, hnd]⟩

/-- `check_receiver_type_compatibility` -/
theorem checkReceiverTypeCompat_ok {nw : Network} {s : Schedule} {p r : Veh} {a b rvt : Nat}
    (h : checkReceiverTypeCompat nw s p r a b = .ok true) (hr : s.typeOf? r = some rvt) :
    s.typeOf? p = some rvt ∨
    ∃ pt path first, s.tourOf? p = some pt ∧ Tour.subPath nw pt a b = .ok path ∧
      path.any (fun n => !(nw.compatibleWithType n rvt)) = false ∧ path[0]? = some first ∧
      ((nw.node first).isStartDepot = true → ∃ rt, s.tourOf? r = some rt ∧
        (rt.startDepot nw = .ok first ∨
          spawnedCount s.depotUsage (nw.depotIdxOf first) rvt < nw.capacityOf (nw.depotIdxOf first) rvt)) := by
  unfold checkReceiverTypeCompat at h
  rw [hr] at h
  dsimp only at h
  rcases ite_ok h with ⟨hsame, -⟩ | ⟨-, h⟩
  · exact Or.inl (eq_of_beq hsame)
  obtain ⟨pt, hpt, h⟩ := bind_ok h
  cases hsub : Tour.subPath nw pt a b with
  | error e =>
    rw [hsub] at h
    cases e <;> exact absurd h error_bind_ne
  | ok path =>
    rw [hsub] at h
    obtain ⟨_, ⟨⟩, h⟩ := bind_ok h
    rcases ite_ok h with ⟨-, ⟨⟩⟩ | ⟨hany, h⟩
    obtain ⟨first, hfirst, h⟩ := bind_ok h
    refine Or.inr ⟨pt, path, first, unwrapO_ok hpt, hsub, Bool.eq_false_iff.mpr hany, idxAt_inv hfirst,
      fun hsd => ?_⟩
    rw [if_pos hsd] at h
    obtain ⟨rt, hrt, h⟩ := bind_ok h
    refine ⟨rt, unwrapO_ok hrt, ?_⟩
    rcases ite_ok h with ⟨-, h⟩ | ⟨hsame, -⟩
    · rcases ite_ok h with ⟨-, ⟨⟩⟩ | ⟨hc, -⟩
      exact Or.inr (Nat.lt_of_not_ge hc)
    · cases hd : rt.startDepot nw with
      | error e =>
        rw [hd] at hsame
        exact absurd rfl hsame
      | ok d =>
        rw [hd] at hsame
        have e : d = first := by simpa using hsame
        exact Or.inl (by rw [e])

/-- the costs after the provider's tour is dropped by `update_tours` -/
def ProviderCosts (s : Schedule) (w : Work) (p : Veh) (costs : Nat) : Prop :=
  if s.isVehicle p = true then ∃ t, s.tourOf? p = some t ∧ t.costs ≤ w.costs ∧ costs = w.costs - t.costs
  else costs = w.costs

/-- the first half of `update_tours`: the work record after the provider `p` got `newProv` as its
    tour (`none`: it is removed), before its depot usage is updated -/
inductive ProviderDone (s : Schedule) (w : Work) (p : Veh) : Option Tour → Work → Prop
  | shrunk {t : Tour} {r : Tours × Tours × Nat} :
      updateTourAndCosts s w.tours w.dummyTours w.costs p t = .ok r →
      ProviderDone s w p (some t) { w with tours := r.1, dummyTours := r.2.1, costs := r.2.2 }
  | dummyGone {costs : Nat} : ProviderCosts s w p costs → s.isDummy p = true → w.dummyIds.contains p = true →
      ProviderDone s w p none
        { w with costs, dummyTours := assocErase w.dummyTours p, dummyIds := w.dummyIds.filter (· != p) }
  | vehicleGone {costs pvt : Nat} {ids : List (Nat × List Veh)} : ProviderCosts s w p costs →
      s.isDummy p = false → s.isVehicle p = true → s.typeOf? p = some pvt → idsRemove w.ids pvt p = .ok ids →
      ProviderDone s w p none
        { w with costs, vehicles := assocErase w.vehicles p, tours := assocErase w.tours p, ids }
  | absent : s.isDummy p = false → s.isVehicle p = false → ProviderDone s w p none w

/-- an existential and not a record: its users case-split on `ProviderDone`, whose index `w0` must
    be a variable -/
theorem updateTours_ok {nw : Network} {s : Schedule} {w w' : Work} {p : Veh} {newProv : Option Tour}
    {receiver : Veh} {newRecv : Tour} {moved : List Nat}
    (h : updateTours nw s w (some p) newProv receiver newRecv moved = .ok w') :
    ∃ w0 usage1 tours dummyTours costs usage forms unserved,
      ProviderDone s w p newProv w0 ∧
      updateDepotUsage nw s w0.usage w0.vehicles w0.tours p = .ok usage1 ∧
      updateTourAndCosts s w0.tours w0.dummyTours w0.costs receiver newRecv = .ok (tours, dummyTours, costs) ∧
      updateDepotUsage nw s usage1 w0.vehicles tours receiver = .ok usage ∧
      updateTrainFormation nw s (typeIn w0.vehicles s) w0.forms w0.unserved (some p)
        (if s.isVehicle receiver = true then some receiver else none) moved = .ok (forms, unserved) ∧
      w' = { w0 with tours, dummyTours, costs, usage, forms, unserved } := by
  unfold updateTours at h
  extract_lets recvVeh recv at h
  dsimp -zeta -zetaHave only at h
  -- `prov w0` is the code from the provider's depot usage on, `dropped costs` removes the provider's entries
  extract_lets prov dropped at h
  obtain ⟨w0, hprov, h⟩ : ∃ w0, ProviderDone s w p newProv w0 ∧ prov w0 = .ok w' := by
    cases newProv with
    | some t =>
      dsimp only at h
      obtain ⟨⟨tours, dummyTours, costs⟩, hutc, h⟩ := bind_ok h
      obtain ⟨_, e, h⟩ := bind_ok h
      cases e
      exact ⟨_, .shrunk hutc, h⟩
    | none =>
      dsimp only at h
      obtain ⟨costs, hcosts, h⟩ : ∃ costs, ProviderCosts s w p costs ∧ dropped costs = .ok w' := by
        unfold ProviderCosts
        split at h
        · rename_i hv
          obtain ⟨t, ht, h⟩ := bind_ok h
          obtain ⟨c, hc, h⟩ := bind_ok h
          obtain ⟨hle, rfl⟩ := subNat_ok hc
          exact ⟨_, by rw [if_pos hv]; exact ⟨t, unwrapO_ok ht, hle, rfl⟩, h⟩
        · rename_i hv
          obtain ⟨_, e, h⟩ := bind_ok h
          cases e
          exact ⟨_, by rw [if_neg hv], h⟩
      dsimp only [dropped] at h
      split at h
      · rename_i hd
        split at h
        · exact absurd h error_bind_ne
        · rename_i hc
          obtain ⟨_, e, h⟩ := bind_ok h
          cases e
          exact ⟨_, .dummyGone hcosts hd (by simpa using hc), h⟩
      · rename_i hd
        split at h
        · rename_i hv
          obtain ⟨pvt, hpvt, h⟩ := bind_ok h
          obtain ⟨ids, hids, h⟩ := bind_ok h
          obtain ⟨_, e, h⟩ := bind_ok h
          cases e
          exact ⟨_, .vehicleGone hcosts (Bool.eq_false_iff.mpr hd) hv (unwrapO_ok hpvt) hids, h⟩
        · rename_i hv
          obtain ⟨_, e, h⟩ := bind_ok h
          cases e
          have hc : costs = w.costs := by unfold ProviderCosts at hcosts; rw [if_neg hv] at hcosts; exact hcosts
          subst hc
          exact ⟨_, .absent (Bool.eq_false_iff.mpr hd) (Bool.eq_false_iff.mpr hv), h⟩
  dsimp only [prov] at h
  obtain ⟨usage1, hu1, h⟩ := bind_ok h
  obtain ⟨_, e, h⟩ := bind_ok h
  cases e
  dsimp only [recv] at h
  obtain ⟨⟨tours, dummyTours, costs⟩, hutc, h⟩ := bind_ok h
  obtain ⟨usage, hu, h⟩ := bind_ok h
  obtain ⟨⟨forms, unserved⟩, hf, h⟩ := bind_ok h
  cases h
  exact ⟨w0, usage1, tours, dummyTours, costs, usage, forms, unserved, hprov, hu1, hutc, hu, hf, rfl⟩

theorem mem_zip_range {l : List Nat} {i n : Nat} (h : (i, n) ∈ (List.range l.length).zip l) : l[i]? = some n := by
  obtain ⟨k, hk, e⟩ := List.mem_iff_getElem.mp h
  rw [List.getElem_zip] at e
  simp only [List.getElem_range, Prod.mk.injEq] at e
  obtain ⟨e1, e2⟩ := e
  subst e1
  have hk' : k < l.length := by simp at hk; omega
  rw [List.getElem?_eq_getElem hk', e2]

theorem sel_last {path : List Nat} {start : Nat} (h0 : path[0]? = some start) (sel : List (Nat × Nat))
    (hsub : sel.Sublist ((List.range path.length).zip path)) :
    path[(sel.getLast?.getD (0, start)).1]? = some (sel.getLast?.getD (0, start)).2 := by
  cases hl : sel.getLast? with
  | none => simpa using h0
  | some x =>
    simp only [Option.getD_some]
    have hm : x ∈ sel := List.mem_of_getLast? hl
    exact mem_zip_range (hsub.subset hm)

/-- one round of the loop of `fit_path_into_tour`: the front piece `path[0..endPos]` stays where it
    is or moves from the provider to the receiver -/
theorem fitLoop_succ_ok {nw : Network} {chk : Bool} {fuel : Nat} {prov : Option Tour} {recv : Tour}
    {path moved : List Nat} {res : Option Tour × Tour × List Nat}
    (h : fitLoop nw chk (fuel + 1) prov recv (some path) moved = .ok res) :
    ∃ start endPos segEnd pc, path[0]? = some start ∧ path[endPos]? = some segEnd ∧ prov = some pc ∧
      (fitLoop nw chk fuel prov recv (Tour.pathTrusted nw (path.drop (endPos + 1))) moved = .ok res ∨
       ∃ provCand pathIns recv' rm, Tour.remove nw pc start segEnd = .ok (provCand, pathIns) ∧
         ¬(chk && !(Tour.isChain nw pathIns)) = true ∧
         Tour.conflict nw true recv start segEnd = .ok none ∧
         Tour.insertPath nw true recv pathIns = .ok (recv', rm) ∧
         fitLoop nw chk fuel provCand recv' (Tour.pathTrusted nw (path.drop (endPos + 1)))
           (moved ++ path.take (endPos + 1)) = .ok res) := by
  unfold fitLoop at h
  obtain ⟨start, hstart, h⟩ := bind_ok h
  obtain ⟨blocked, -, h⟩ := bind_ok h
  -- `round (endPos, segEnd)` is the rest of the round once the end of the front piece is chosen
  extract_lets round at h
  have hstart := idxAt_inv hstart
  obtain ⟨endPos, segEnd, hend, h⟩ : ∃ endPos segEnd, path[endPos]? = some segEnd ∧
      round (endPos, segEnd) = .ok res := by
    split at h
    · obtain ⟨l, hl, h⟩ := bind_ok h
      obtain ⟨_, e, h⟩ := bind_ok h
      cases e
      exact ⟨_, _, idxAt_inv hl, h⟩
    · obtain ⟨blocker, -, h⟩ := bind_ok h
      obtain ⟨p, -, h⟩ := bind_ok h
      obtain ⟨_, e, h⟩ := bind_ok h
      cases e
      exact ⟨_, _, sel_last hstart _ ((List.filter_sublist).trans (List.takeWhile_sublist _)), h⟩
  dsimp only [round] at h
  obtain ⟨pc, hpc, h⟩ := bind_ok h
  refine ⟨start, endPos, segEnd, pc, hstart, hend, unwrapO_ok hpc, ?_⟩
  split at h
  · exact Or.inl h
  · cases h
  rename_i provCand pathIns hrem
  split at h
  · exact Or.inl h
  rename_i hchk
  obtain ⟨conf, hconf, h⟩ := bind_ok h
  cases conf with
  | some _ => exact Or.inl h
  | none =>
    obtain ⟨⟨recv', rm⟩, hins, h⟩ := bind_ok h
    exact Or.inr ⟨provCand, pathIns, recv', rm, hrem, hchk, hconf, hins, h⟩

/-- the loop of `fit_path_into_tour` as an invariant rule over (provider, receiver, remaining path,
    moved nodes): `skip` for a round that moves nothing, `move` for one that hands the front piece over -/
theorem fitLoop_induct {nw : Network} {chk : Bool} {I : Option Tour → Tour → Option (List Nat) → List Nat → Prop}
    (skip : ∀ prov recv path moved k, I prov recv (some path) moved →
      I prov recv (Tour.pathTrusted nw (path.drop (k + 1))) moved)
    (move : ∀ pc recv path moved endPos start segEnd provCand pathIns recv' rm, I (some pc) recv (some path) moved →
      path[0]? = some start → path[endPos]? = some segEnd →
      Tour.remove nw pc start segEnd = .ok (provCand, pathIns) → ¬(chk && !(Tour.isChain nw pathIns)) = true →
      Tour.conflict nw true recv start segEnd = .ok none → Tour.insertPath nw true recv pathIns = .ok (recv', rm) →
      I provCand recv' (Tour.pathTrusted nw (path.drop (endPos + 1))) (moved ++ path.take (endPos + 1))) :
    ∀ (fuel : Nat) (prov : Option Tour) (recv : Tour) (rem : Option (List Nat)) (moved : List Nat)
      (np : Option Tour) (nr : Tour) (mv : List Nat),
      I prov recv rem moved → fitLoop nw chk fuel prov recv rem moved = .ok (np, nr, mv) → ∃ rem', I np nr rem' mv
  | 0, prov, recv, rem, moved, np, nr, mv, hI, h => by
    cases h
    exact ⟨rem, hI⟩
  | fuel + 1, prov, recv, none, moved, np, nr, mv, hI, h => by
    cases h
    exact ⟨none, hI⟩
  | fuel + 1, prov, recv, some path, moved, np, nr, mv, hI, h => by
    obtain ⟨_, endPos, _, pc, hstart, hend, rfl, hskip | ⟨_, _, _, _, hrem, hchk, hconf, hins, hrec⟩⟩ :=
      fitLoop_succ_ok h
    · exact fitLoop_induct skip move fuel _ _ _ _ _ _ _ (skip _ _ _ _ endPos hI) hskip
    · exact fitLoop_induct skip move fuel _ _ _ _ _ _ _
        (move _ _ _ _ _ _ _ _ _ _ _ hI hstart hend hrem hchk hconf hins) hrec

/-- `fit_reassign` -/
structure FitRun (nw : Network) (s : Schedule) (p r : Veh) (a b : Nat) where
  pt : Tour
  rt : Tour
  path : List Nat
  newProv : Option Tour
  newRecv : Tour
  moved : List Nat
  w : Work
  trans : List (Nat × Transition)
  viol : Int
  compat : checkReceiverTypeCompat nw s p r a b = .ok true
  prov_eq : s.tourOf? p = some pt
  recv_eq : s.tourOf? r = some rt
  path_eq : Tour.subPath nw pt a b = .ok path
  loop_eq : fitLoop nw (s.isDummy p && s.isVehicle r) (path.length + 1) (some pt) rt (some path) []
    = .ok (newProv, newRecv, moved)
  update_eq : updateTours nw s (Work.ofSchedule s) (some p) newProv r newRecv moved = .ok w
  trans_eq : updateTransitionsFast nw s w.vehicles w.tours [p, r] [] s.transitions s.violation
    = .ok (trans, viol)

theorem fitReassign_ok {nw : Network} {s s' : Schedule} {p r : Veh} {a b : Nat}
    (h : fitReassign nw s p r a b = .ok s') :
    ∃ x : FitRun nw s p r a b,
      s' = { s with vehicles := x.w.vehicles, tours := x.w.tours, transitions := x.trans,
                    formations := x.w.forms, depotUsage := x.w.usage, dummyTours := x.w.dummyTours,
                    idsByType := x.w.ids, dummyIds := x.w.dummyIds, unserved := x.w.unserved,
                    violation := x.viol, costs := x.w.costs } := by
  unfold fitReassign at h
  obtain ⟨c, hc, h⟩ := bind_ok h
  split at h
  · cases h
  rename_i hc'
  obtain ⟨pt, hpt, h⟩ := bind_ok h
  obtain ⟨rt, hrt, h⟩ := bind_ok h
  obtain ⟨path, hpath, h⟩ := bind_ok h
  obtain ⟨⟨newProv, newRecv, moved⟩, hloop, h⟩ := bind_ok h
  obtain ⟨w, hw, h⟩ := bind_ok h
  obtain ⟨⟨trans, viol⟩, ht, h⟩ := bind_ok h
  cases h
  have : c = true := by simpa using hc'
  subst this
  exact ⟨⟨pt, rt, path, newProv, newRecv, moved, w, trans, viol, hc, unwrapO_ok hpt, unwrapO_ok hrt, hpath,
    hloop, hw, ht⟩, rfl⟩

/-- `override_reassign`; `replaced`, the activities pushed out of the receiver's tour, is a
    parameter because its users do `cases replaced` -/
structure OverrideRun (nw : Network) (s : Schedule) (p r : Veh) (a b : Nat) (replaced : Option (List Nat)) where
  pt : Tour
  rt : Tour
  shrunk : Option Tour
  path : List Nat
  newRecv : Tour
  w : Work
  forms : List (Nat × List Veh)
  unserved : Nat × Nat
  trans : List (Nat × Transition)
  viol : Int
  compat : checkReceiverTypeCompat nw s p r a b = .ok true
  prov_eq : s.tourOf? p = some pt
  recv_eq : s.tourOf? r = some rt
  remove_eq : Tour.remove nw pt a b = .ok (shrunk, path)
  chain : (s.isDummy p && s.isVehicle r && !(Tour.isChain nw path)) = false
  insert_eq : Tour.insertPath nw true rt path = .ok (newRecv, replaced)
  update_eq : updateTours nw s (Work.ofSchedule s) (some p) shrunk r newRecv path = .ok w
  forms_eq : (match replaced with
    | some np => if s.isVehicle r = true then
        updateTrainFormation nw s (typeIn w.vehicles s) w.forms w.unserved (some r) none np
      else .ok (w.forms, w.unserved)
    | none => .ok (w.forms, w.unserved)) = .ok (forms, unserved)
  trans_eq : updateTransitionsFast nw s w.vehicles w.tours [p, r] [] s.transitions s.violation
    = .ok (trans, viol)

theorem overrideReassign_ok {nw : Network} {s s' : Schedule} {p r : Veh} {a b : Nat} {d : Option Veh}
    (h : overrideReassign nw s p r a b = .ok (s', d)) :
    ∃ replaced, ∃ x : OverrideRun nw s p r a b replaced,
      d = (match replaced with
        | some np => (parkDummy nw x.w.dummyTours x.w.dummyIds s.counter np).2.2.2
        | none => none) ∧
      s' = { s with vehicles := x.w.vehicles, tours := x.w.tours, transitions := x.trans, formations := x.forms,
                    depotUsage := x.w.usage, idsByType := x.w.ids, unserved := x.unserved, violation := x.viol,
                    costs := x.w.costs,
                    dummyTours := (match replaced with
                      | some np => (parkDummy nw x.w.dummyTours x.w.dummyIds s.counter np).1
                      | none => x.w.dummyTours),
                    dummyIds := (match replaced with
                      | some np => (parkDummy nw x.w.dummyTours x.w.dummyIds s.counter np).2.1
                      | none => x.w.dummyIds),
                    counter := (match replaced with
                      | some np => (parkDummy nw x.w.dummyTours x.w.dummyIds s.counter np).2.2.1
                      | none => s.counter) } := by
  unfold overrideReassign at h
  obtain ⟨c, hc, h⟩ := bind_ok h
  split at h
  · cases h
  rename_i hc'
  have : c = true := by simpa using hc'
  subst this
  obtain ⟨pt, hpt, h⟩ := bind_ok h
  obtain ⟨rt, hrt, h⟩ := bind_ok h
  obtain ⟨⟨shrunk, path⟩, hrem, h⟩ := bind_ok h
  dsimp -zeta -zetaHave only at h
  split at h
  · cases h
  rename_i hchain
  obtain ⟨⟨newRecv, replaced⟩, hins, h⟩ := bind_ok h
  obtain ⟨w, hw, h⟩ := bind_ok h
  have hpt := unwrapO_ok hpt
  have hrt := unwrapO_ok hrt
  have hchain := Bool.eq_false_iff.mpr hchain
  dsimp -zeta -zetaHave only at h
  extract_lets finish dnew at h
  cases replaced with
  | none =>
    obtain ⟨_, e, h⟩ := bind_ok h
    cases e
    dsimp only [finish] at h
    obtain ⟨⟨trans, viol⟩, ht, h⟩ := bind_ok h
    cases h
    exact ⟨none, ⟨pt, rt, shrunk, path, newRecv, w, _, _, trans, viol, hc, hpt, hrt, hrem, hchain, hins, hw,
      rfl, ht⟩, rfl, rfl⟩
  | some np =>
    dsimp -zeta -zetaHave only at h
    extract_lets parked at h
    obtain ⟨⟨forms, unserved⟩, hf, h⟩ : ∃ x, (if s.isVehicle r = true then
            updateTrainFormation nw s (typeIn w.vehicles s) w.forms w.unserved (some r) none np
          else .ok (w.forms, w.unserved)) = .ok x ∧ parked x = .ok (s', d) := by
      split at h
      · rename_i hv; rw [if_pos hv]; exact bind_ok h
      · rename_i hv; rw [if_neg hv]; exact bind_ok h
    dsimp only [parked] at h
    cases hnd : Tour.newDummy nw np <;> rw [hnd] at h <;>
    · obtain ⟨_, e, h⟩ := bind_ok h
      cases e
      dsimp only [finish] at h
      obtain ⟨⟨trans, viol⟩, ht, h⟩ := bind_ok h
      cases h
      exact ⟨some np, ⟨pt, rt, shrunk, path, newRecv, w, forms, unserved, trans, viol, hc, hpt, hrt, hrem, hchain,
        hins, hw, hf, ht⟩, by simp only [parkDummy, hnd, dnew], by simp only [parkDummy, hnd, dnew]⟩

/-- `improve_depots_of_tour` -/
theorem improveDepotsOfTour_ok {nw : Network} {t nt : Tour} {vt : Nat} {u : DepotUsage}
    (h : improveDepotsOfTour nw t vt u = .ok nt) :
    ∃ fnd ns cur t1 lnd ne curE, t.firstNonDepot = some fnd ∧ findBestStartDepot nw u vt fnd = .ok ns ∧
      Transition.startDepotU nw t = .ok cur ∧
      (if (ns != cur) = true then t.replaceStartDepot nw ns = .ok t1 else t1 = t) ∧
      t1.lastNonDepot nw = some lnd ∧ findBestEndDepot nw lnd = .ok ne ∧
      Transition.endDepotU nw t1 = .ok curE ∧
      (if (ne != curE) = true then t1.replaceEndDepot nw ne = .ok nt else nt = t1) := by
  unfold improveDepotsOfTour at h
  obtain ⟨fnd, hfnd, h⟩ := bind_ok h
  obtain ⟨ns, hns, h⟩ := bind_ok h
  obtain ⟨cur, hcur, h⟩ := bind_ok h
  -- `ends t1` is the code that follows the choice of the start depot
  extract_lets ends at h
  obtain ⟨t1, ht1, h⟩ : ∃ t1, (if (ns != cur) = true then t.replaceStartDepot nw ns = .ok t1 else t1 = t) ∧
      ends t1 = .ok nt := by
    split at h
    · rename_i hc
      obtain ⟨t1, ht1, h⟩ := bind_ok h
      exact ⟨t1, by rw [if_pos hc]; exact unwrapR_ok ht1, h⟩
    · rename_i hc
      obtain ⟨t1, ht1, h⟩ := bind_ok h
      cases ht1
      exact ⟨t, by rw [if_neg hc], h⟩
  dsimp only [ends] at h
  obtain ⟨lnd, hlnd, h⟩ := bind_ok h
  obtain ⟨ne, hne, h⟩ := bind_ok h
  obtain ⟨curE, hcurE, h⟩ := bind_ok h
  refine ⟨fnd, ns, cur, t1, lnd, ne, curE, unwrapO_ok hfnd, hns, hcur, ht1, unwrapO_ok hlnd, unwrapR_ok hne, hcurE, ?_⟩
  split at h
  · rename_i hc
    rw [if_pos hc]
    exact unwrapR_ok h
  · rename_i hc
    rw [if_neg hc]
    cases h
    rfl

theorem improveDepotsOfTour_keeps {P : Tour → Prop} {nw : Network} {t nt : Tour} {vt : Nat} {u : DepotUsage}
    (h : improveDepotsOfTour nw t vt u = .ok nt) (ht : P t)
    (hstart : ∀ t0 t1 d, P t0 → t0.replaceStartDepot nw d = .ok t1 → P t1)
    (hend : ∀ t0 t1 d, P t0 → t0.replaceEndDepot nw d = .ok t1 → P t1) : P nt := by
  obtain ⟨_, _, _, t1, _, _, _, -, -, -, h1, -, -, -, h2⟩ := improveDepotsOfTour_ok h
  have ht1 : P t1 := by
    split at h1
    · exact hstart _ _ _ ht h1
    · rw [h1]
      exact ht
  split at h2
  · exact hend _ _ _ ht1 h2
  · rw [h2]
    exact ht1

theorem improveDepots_ok {nw : Network} {s s' : Schedule} {vs : Option (List Veh)}
    (h : improveDepots nw s vs = .ok s') :
    ∃ usage0 tours usage costs trans viol,
      (vs.getD (s.vehiclesAll nw)).foldlM (takeOut nw s) s.depotUsage = .ok usage0 ∧
      (vs.getD (s.vehiclesAll nw)).foldlM (improveStep nw s) (s.tours, usage0, s.costs)
        = .ok (tours, usage, costs) ∧
      (match vs with
        | none => recomputeTransitions nw s.idsByType tours nw.typeIdxs s.transitions s.violation
        | some ids => updateTransitionsFast nw s s.vehicles tours ids [] s.transitions s.violation)
        = .ok (trans, viol) ∧
      s' = { s with tours, transitions := trans, depotUsage := usage, violation := viol, costs } := by
  unfold improveDepots at h
  dsimp only at h
  obtain ⟨usage0, h0, h⟩ := bind_ok h
  obtain ⟨⟨tours, usage, costs⟩, h1, h⟩ := bind_ok h
  dsimp only at h
  cases vs <;>
  · obtain ⟨⟨trans, viol⟩, ht, h⟩ := bind_ok h
    cases h
    exact ⟨usage0, tours, usage, costs, trans, viol, h0, h1, ht, rfl⟩

theorem reassignEndDepotsGreedily_ok {nw : Network} {s s' : Schedule}
    (h : reassignEndDepotsGreedily nw s = .ok s') :
    ∃ tours usage costs trans viol,
      (s.vehiclesAll nw).foldlM (greedyStep nw s) (s.tours, s.depotUsage, s.costs) = .ok (tours, usage, costs) ∧
      recomputeTransitions nw s.idsByType tours nw.typeIdxs s.transitions s.violation = .ok (trans, viol) ∧
      s' = { s with tours, transitions := trans, depotUsage := usage, violation := viol, costs } := by
  unfold reassignEndDepotsGreedily at h
  obtain ⟨⟨tours, usage, costs⟩, h1, h⟩ := bind_ok h
  obtain ⟨⟨trans, viol⟩, ht, h⟩ := bind_ok h
  cases h
  exact ⟨tours, usage, costs, trans, viol, h1, ht, rfl⟩

theorem reassignEndDepotsConsistent_ok {nw : Network} {s s' : Schedule}
    (h : reassignEndDepotsConsistent nw s = .ok s') :
    ∃ tours usage costs trans viol,
      (s.vehiclesAll nw).foldlM (endStep nw s) (s.tours, s.depotUsage, s.costs) = .ok (tours, usage, costs) ∧
      updateTransitionsFast nw s s.vehicles tours (s.vehiclesAll nw) [] s.transitions s.violation
        = .ok (trans, viol) ∧
      s' = { s with tours, transitions := trans, depotUsage := usage, violation := viol, costs } := by
  unfold reassignEndDepotsConsistent at h
  obtain ⟨⟨tours, usage, costs⟩, h1, h⟩ := bind_ok h
  obtain ⟨⟨trans, viol⟩, ht, h⟩ := bind_ok h
  cases h
  exact ⟨tours, usage, costs, trans, viol, h1, ht, rfl⟩

theorem recomputeTransitionsFor_ok {nw : Network} {s s' : Schedule} {vts : Option (List Nat)}
    (h : recomputeTransitionsFor nw s vts = .ok s') :
    ∃ trans viol,
      recomputeTransitions nw s.idsByType s.tours (vts.getD nw.typeIdxs) s.transitions s.violation
        = .ok (trans, viol) ∧
      s' = { s with transitions := trans, violation := viol } := by
  unfold recomputeTransitionsFor at h
  obtain ⟨⟨trans, viol⟩, ht, h⟩ := bind_ok h
  cases h
  exact ⟨trans, viol, ht, rfl⟩

/-- all that `improve_depots`, the two reassignments of end depots and the recomputation of the
    transitions write -/
def DepotOnly (s s' : Schedule) : Prop :=
  ∃ tours trans usage viol costs,
    s' = { s with tours, transitions := trans, depotUsage := usage, violation := viol, costs }

theorem improveDepots_depotOnly {nw : Network} {s s' : Schedule} {vs : Option (List Veh)}
    (h : improveDepots nw s vs = .ok s') : DepotOnly s s' := by
  obtain ⟨_, tours, usage, costs, trans, viol, -, -, -, rfl⟩ := improveDepots_ok h
  exact ⟨tours, trans, usage, viol, costs, rfl⟩

theorem reassignEndDepotsGreedily_depotOnly {nw : Network} {s s' : Schedule}
    (h : reassignEndDepotsGreedily nw s = .ok s') : DepotOnly s s' := by
  obtain ⟨tours, usage, costs, trans, viol, -, -, rfl⟩ := reassignEndDepotsGreedily_ok h
  exact ⟨tours, trans, usage, viol, costs, rfl⟩

theorem reassignEndDepotsConsistent_depotOnly {nw : Network} {s s' : Schedule}
    (h : reassignEndDepotsConsistent nw s = .ok s') : DepotOnly s s' := by
  obtain ⟨tours, usage, costs, trans, viol, -, -, rfl⟩ := reassignEndDepotsConsistent_ok h
  exact ⟨tours, trans, usage, viol, costs, rfl⟩

theorem recomputeTransitionsFor_depotOnly {nw : Network} {s s' : Schedule} {vts : Option (List Nat)}
    (h : recomputeTransitionsFor nw s vts = .ok s') : DepotOnly s s' := by
  obtain ⟨trans, viol, -, rfl⟩ := recomputeTransitionsFor_ok h
  exact ⟨s.tours, trans, s.depotUsage, viol, s.costs, rfl⟩

end Schedule

open Spec Schedule

theorem applyOp_cases {nw : Network} {s : Schedule} {motive : SOp → Schedule → Prop}
    (init : motive .init (Schedule.empty nw))
    (spawn : ∀ vt path s' v, spawnVehicleForPath nw s vt path = .ok (s', v) → motive (.spawn vt path) s')
    (dummySpawn : ∀ d vt s' v, spawnToReplaceDummy nw s d vt = .ok (s', v) → motive (.dummySpawn d vt) s')
    (delete : ∀ v s', replaceVehicleByDummy nw s v = .ok s' → motive (.delete v) s')
    (addPath : ∀ v path p s' rm, Tour.pathNew nw path = .ok (some p) →
      addPathToVehicleTour nw s v p = .ok (s', rm) → motive (.addPath v path) s')
    (rmSeg : ∀ v a b s', removeSegment nw s v a b = .ok s' → motive (.rmSeg v a b) s')
    (fit : ∀ p r a b s', fitReassign nw s p r a b = .ok s' → motive (.fit p r a b) s')
    (override : ∀ p r a b s' d, overrideReassign nw s p r a b = .ok (s', d) → motive (.override p r a b) s')
    (improve : ∀ vs s', improveDepots nw s vs = .ok s' → motive (.improve vs) s')
    (endGreedy : ∀ s', reassignEndDepotsGreedily nw s = .ok s' → motive .endGreedy s')
    (recompute : ∀ vts s', recomputeTransitionsFor nw s vts = .ok s' → motive (.recompute vts) s')
    (endConsistent : ∀ s', reassignEndDepotsConsistent nw s = .ok s' → motive .endConsistent s')
    (setTrans : ∀ vt v ci tr moved, assocGet? s.transitions vt = some tr →
      Transition.moveVehicle nw false tr v ci s.tours = .ok moved →
      motive (.setTrans vt v ci) (setNextDayTransitions s (assocSet s.transitions vt moved)))
    {op : SOp} {r : OpResult} (h : applyOp nw s op = .ok r) : motive op r.sched := by
  unfold applyOp at h
  cases op with
  | init => cases h; exact init
  | spawn vt path => obtain ⟨⟨s', v⟩, hs, h⟩ := bind_ok h; cases h; exact spawn _ _ _ _ hs
  | dummySpawn d vt => obtain ⟨⟨s', v⟩, hs, h⟩ := bind_ok h; cases h; exact dummySpawn _ _ _ _ hs
  | delete v => obtain ⟨s', hs, h⟩ := bind_ok h; cases h; exact delete _ _ hs
  | addPath v path =>
    dsimp only at h
    split at h
    · rename_i p hp
      obtain ⟨⟨s', rm⟩, hs, h⟩ := bind_ok h
      cases h
      exact addPath _ _ _ _ _ hp hs
    · cases h
  | rmSeg v a b => obtain ⟨s', hs, h⟩ := bind_ok h; cases h; exact rmSeg _ _ _ _ hs
  | fit p r a b => obtain ⟨s', hs, h⟩ := bind_ok h; cases h; exact fit _ _ _ _ _ hs
  | override p r a b => obtain ⟨⟨s', d⟩, hs, h⟩ := bind_ok h; cases h; exact override _ _ _ _ _ _ hs
  | improve vs => obtain ⟨s', hs, h⟩ := bind_ok h; cases h; exact improve _ _ hs
  | endGreedy => obtain ⟨s', hs, h⟩ := bind_ok h; cases h; exact endGreedy _ hs
  | recompute vts => obtain ⟨s', hs, h⟩ := bind_ok h; cases h; exact recompute _ _ hs
  | endConsistent => obtain ⟨s', hs, h⟩ := bind_ok h; cases h; exact endConsistent _ hs
  | setTrans vt v ci =>
    obtain ⟨tr, htr, h⟩ := bind_ok h
    obtain ⟨moved, hm, h⟩ := bind_ok h
    cases h
    exact setTrans _ _ _ _ _ (unwrapO_ok htr) hm

theorem runOps_induct {nw : Network} {P : Schedule → Prop} {A : SOp → Prop}
    (step : ∀ s op r, P s → A op → applyOp nw s op = .ok r → P r.sched) :
    ∀ (ops : List SOp) (s s' : Schedule), P s → (∀ op ∈ ops, A op) → C02.runOps nw s ops = some s' → P s'
  | [], s, s', hP, _, h => by cases h; exact hP
  | op :: rest, s, s', hP, hA, h => by
    unfold C02.runOps at h
    split at h
    · rename_i r hr
      exact runOps_induct step rest r.sched s' (step s op r hP (hA op (List.mem_cons_self ..)) hr)
        (fun o ho => hA o (List.mem_cons_of_mem _ ho)) h
    · cases h

theorem runOps_induct0 {nw : Network} {P : Schedule → Prop}
    (step : ∀ s op r, P s → applyOp nw s op = .ok r → P r.sched) (ops : List SOp) (s s' : Schedule)
    (hP : P s) (h : C02.runOps nw s ops = some s') : P s' :=
  runOps_induct (A := fun _ => True) (fun s op r hP _ => step s op r hP) ops s s' hP (fun _ _ => trivial) h

end RSSched
