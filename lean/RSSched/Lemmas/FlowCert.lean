/-
Lemmas/FlowCert: optimality certificate for a min-cost circulation with lower and upper bounds.
`cert_sound`: a feasible circulation that satisfies the reduced-cost optimality conditions for some
node potentials costs no more than any other feasible circulation. Core Lean only (the double-sum
exchange is proved by induction).
-/
namespace RSSched.FlowCert

structure Arc where
  src : Nat
  dst : Nat
  lb : Int
  ub : Int
  cost : Int
deriving Repr, DecidableEq

/-- indexed sum over an arc list; `k` is the index of the head -/
def sumFrom : List Arc → Nat → (Nat → Arc → Int) → Int
  | [], _, _ => 0
  | a :: as, k, g => g k a + sumFrom as (k+1) g

theorem sumFrom_add (A : List Arc) (k : Nat) (g h : Nat → Arc → Int) :
    sumFrom A k (fun i a => g i a + h i a) = sumFrom A k g + sumFrom A k h := by
  induction A generalizing k with
  | nil => simp [sumFrom]
  | cons a as ih => simp [sumFrom, ih]; omega

theorem sumFrom_sub (A : List Arc) (k : Nat) (g h : Nat → Arc → Int) :
    sumFrom A k (fun i a => g i a - h i a) = sumFrom A k g - sumFrom A k h := by
  induction A generalizing k with
  | nil => simp [sumFrom]
  | cons a as ih => simp [sumFrom, ih]; omega

theorem sumFrom_nonneg_idx (A : List Arc) (k : Nat) (g : Nat → Arc → Int)
    (h : ∀ j a, A[j]? = some a → 0 ≤ g (k + j) a) : 0 ≤ sumFrom A k g := by
  induction A generalizing k with
  | nil => simp [sumFrom]
  | cons a as ih =>
    simp only [sumFrom]
    have h1 : 0 ≤ g k a := h 0 a rfl
    have h2 := ih (k+1) fun j b hb => by
      rw [Nat.add_assoc, Nat.add_comm 1 j]
      exact h (j+1) b hb
    omega

theorem sumFrom_nonneg (A : List Arc) (k : Nat) (g : Nat → Arc → Int)
    (h : ∀ i a, a ∈ A → 0 ≤ g i a) : 0 ≤ sumFrom A k g :=
  sumFrom_nonneg_idx A k g fun _ a hj => h _ a (List.mem_of_getElem? hj)

theorem sumFrom_congr (A : List Arc) (k : Nat) (g h : Nat → Arc → Int)
    (e : ∀ i a, a ∈ A → g i a = h i a) : sumFrom A k g = sumFrom A k h := by
  induction A generalizing k with
  | nil => simp [sumFrom]
  | cons a as ih =>
    simp only [sumFrom]
    rw [e k a (by simp), ih (k+1) (fun i b hb => e i b (by simp [hb]))]

def sumV : List Nat → (Nat → Int) → Int
  | [], _ => 0
  | v :: vs, g => g v + sumV vs g

theorem sumV_add (V : List Nat) (g h : Nat → Int) :
    sumV V (fun v => g v + h v) = sumV V g + sumV V h := by
  induction V with
  | nil => simp [sumV]
  | cons v vs ih => simp [sumV, ih]; omega

theorem sumV_zero (V : List Nat) : sumV V (fun _ => 0) = 0 := by
  induction V with
  | nil => rfl
  | cons v vs ih => simp [sumV, ih]

theorem sum_swap (A : List Arc) (k : Nat) (V : List Nat) (g : Nat → Arc → Nat → Int) :
    sumFrom A k (fun i a => sumV V (fun v => g i a v)) =
    sumV V (fun v => sumFrom A k (fun i a => g i a v)) := by
  induction A generalizing k with
  | nil => simp [sumFrom, sumV_zero]
  | cons a as ih =>
    simp only [sumFrom]
    rw [ih (k+1), ← sumV_add]

theorem sumV_congr (V : List Nat) (g h : Nat → Int) (e : ∀ v ∈ V, g v = h v) :
    sumV V g = sumV V h := by
  induction V with
  | nil => rfl
  | cons v vs ih =>
    simp only [sumV]
    rw [e v (by simp), ih (fun w hw => e w (by simp [hw]))]

theorem sumV_indicator (V : List Nat) (hV : V.Nodup) (u : Nat) (hu : u ∈ V) (c : Int) :
    sumV V (fun v => if u = v then c else 0) = c := by
  induction V with
  | nil => cases hu
  | cons w ws ih =>
    simp only [sumV]
    have hnd := List.nodup_cons.mp hV
    by_cases e : u = w
    · subst e
      have : sumV ws (fun v => if u = v then c else 0) = 0 :=
        (sumV_congr ws _ _ fun v hv => if_neg fun (h : u = v) => hnd.1 (h ▸ hv)).trans (sumV_zero ws)
      simp [this]
    · have : u ∈ ws := by
        cases hu with
        | head => exact absurd rfl e
        | tail _ h => exact h
      simp [e, ih hnd.2 this]

def outflow (A : List Arc) (f : Nat → Int) (v : Nat) : Int :=
  sumFrom A 0 (fun i a => if a.src = v then f i else 0)
def inflow (A : List Arc) (f : Nat → Int) (v : Nat) : Int :=
  sumFrom A 0 (fun i a => if a.dst = v then f i else 0)

structure Feasible (V : List Nat) (A : List Arc) (f : Nat → Int) : Prop where
  bounds : ∀ i a, A[i]? = some a → a.lb ≤ f i ∧ f i ≤ a.ub
  conserve : ∀ v, v ∈ V → outflow A f v = inflow A f v

def cost (A : List Arc) (f : Nat → Int) : Int := sumFrom A 0 (fun i a => a.cost * f i)

def redCost (π : Nat → Int) (a : Arc) : Int := a.cost + π a.src - π a.dst

/-- Σ_e π(sel e) f_e = Σ_v π(v) Σ_{e : sel e = v} f_e, for `sel` the source or the target of an arc -/
theorem potential_sel (sel : Arc → Nat) (V : List Nat) (hV : V.Nodup) (A : List Arc)
    (hA : ∀ a ∈ A, sel a ∈ V) (π : Nat → Int) (f : Nat → Int) :
    sumFrom A 0 (fun i a => π (sel a) * f i)
      = sumV V (fun v => π v * sumFrom A 0 (fun i a => if sel a = v then f i else 0)) := by
  have h1 : sumFrom A 0 (fun i a => π (sel a) * f i)
      = sumFrom A 0 (fun i a => sumV V (fun v => if sel a = v then π v * f i else 0)) := by
    apply sumFrom_congr
    intro i a ha
    have := sumV_indicator V hV (sel a) (hA a ha) (π (sel a) * f i)
    rw [← this]
    congr 1; funext v
    by_cases e : sel a = v <;> simp [e]
  rw [h1, sum_swap]
  congr 1; funext v
  have : ∀ (B : List Arc) (k : Nat),
      sumFrom B k (fun i a => if sel a = v then π v * f i else 0)
        = π v * sumFrom B k (fun i a => if sel a = v then f i else 0) := by
    intro B
    induction B with
    | nil => intro k; simp [sumFrom]
    | cons b bs ih =>
      intro k
      simp only [sumFrom, ih (k+1)]
      by_cases e : sel b = v <;> simp [e, Int.mul_add]
  exact this A 0

theorem potential_out (V : List Nat) (hV : V.Nodup) (A : List Arc)
    (hA : ∀ a ∈ A, a.src ∈ V ∧ a.dst ∈ V) (π : Nat → Int) (f : Nat → Int) :
    sumFrom A 0 (fun i a => π a.src * f i) = sumV V (fun v => π v * outflow A f v) :=
  potential_sel Arc.src V hV A (fun a ha => (hA a ha).1) π f

theorem potential_in (V : List Nat) (hV : V.Nodup) (A : List Arc)
    (hA : ∀ a ∈ A, a.src ∈ V ∧ a.dst ∈ V) (π : Nat → Int) (f : Nat → Int) :
    sumFrom A 0 (fun i a => π a.dst * f i) = sumV V (fun v => π v * inflow A f v) :=
  potential_sel Arc.dst V hV A (fun a ha => (hA a ha).2) π f

theorem redCost_total (V : List Nat) (hV : V.Nodup) (A : List Arc)
    (hA : ∀ a ∈ A, a.src ∈ V ∧ a.dst ∈ V) (π : Nat → Int) (f : Nat → Int)
    (hc : ∀ v, v ∈ V → outflow A f v = inflow A f v) :
    sumFrom A 0 (fun i a => redCost π a * f i) = cost A f := by
  have e : sumFrom A 0 (fun i a => redCost π a * f i)
      = sumFrom A 0 (fun i a => (a.cost * f i + π a.src * f i) - π a.dst * f i) := by
    apply sumFrom_congr; intro i a _
    simp only [redCost, Int.sub_mul, Int.add_mul]
  rw [e, sumFrom_sub, sumFrom_add, potential_out V hV A hA, potential_in V hV A hA]
  have : sumV V (fun v => π v * outflow A f v) = sumV V (fun v => π v * inflow A f v) :=
    sumV_congr V _ _ (fun v hv => by rw [hc v hv])
  unfold cost
  omega

/-- the checkable optimality conditions -/
def OptCond (A : List Arc) (π : Nat → Int) (f : Nat → Int) : Prop :=
  ∀ i a, A[i]? = some a →
    (0 < redCost π a → f i = a.lb) ∧ (redCost π a < 0 → f i = a.ub)

theorem cert_sound (V : List Nat) (hV : V.Nodup) (A : List Arc)
    (hA : ∀ a ∈ A, a.src ∈ V ∧ a.dst ∈ V) (π : Nat → Int) (f f' : Nat → Int)
    (hf : Feasible V A f) (hf' : Feasible V A f') (hopt : OptCond A π f) :
    cost A f ≤ cost A f' := by
  rw [← redCost_total V hV A hA π f hf.conserve, ← redCost_total V hV A hA π f' hf'.conserve]
  have : 0 ≤ sumFrom A 0 (fun i a => redCost π a * f' i - redCost π a * f i) := by
    apply sumFrom_nonneg_idx
    intro j a hj
    simp only [Nat.zero_add]
    obtain ⟨hlb, hub⟩ := hf'.bounds j a hj
    obtain ⟨o1, o2⟩ := hopt j a hj
    rw [← Int.mul_sub]
    rcases Int.lt_trichotomy (redCost π a) 0 with hneg | hz | hpos
    · have := o2 hneg
      apply Int.mul_nonneg_of_nonpos_of_nonpos (Int.le_of_lt hneg); omega
    · rw [hz]; simp
    · have := o1 hpos
      apply Int.mul_nonneg (Int.le_of_lt hpos); omega
  rw [sumFrom_sub] at this
  omega

end RSSched.FlowCert
