/-
Lemmas/SegIndex: the index-based delta helpers of tour/modifications.rs
(`dead_head_distance_of_segment`, `dead_head_distance_of_new_nodes`, `costs_of_segment`,
`costs_of_new_nodes`, and the gap terms of `remove`) evaluated on a tour whose node list is
`pre ++ mid ++ suf` with `s = |pre|`, `e = |pre| + |mid|`: they never fault and return exactly the
list-level segment terms `segD` / `segC` of Lemmas/TourSeg.
-/
import RSSched.Lemmas.TourSeg
import RSSched.Lemmas.TourOps
namespace RSSched
open Network Tour

theorem idxAt_get_ok {l : List Nat} {i x : Nat} (h : l[i]? = some x) : idxAt l i = .ok x := by
  simp [idxAt, h]

theorem getElem?_append_pred (pre rest : List Nat) (h : pre ≠ []) :
    (pre ++ rest)[pre.length - 1]? = pre.getLast? := by
  have := List.length_pos_iff.mpr h
  rw [List.getElem?_append_left (by omega), List.getLast?_eq_getElem?]

theorem getElem?_append_length (pre rest : List Nat) : (pre ++ rest)[pre.length]? = rest.head? := by
  rw [List.getElem?_append_right (Nat.le_refl _), Nat.sub_self, List.head?_eq_getElem?]

theorem getElem?_mid (pre mid suf : List Nat) (i : Nat) (h : i < mid.length) :
    (pre ++ mid ++ suf)[i + pre.length]? = some mid[i] := by
  rw [List.append_assoc, List.getElem?_append_right (by omega), Nat.add_sub_cancel, List.getElem?_append_left h,
    List.getElem?_eq_getElem h]

theorem get_head_mid (pre mid suf : List Nat) (h : mid ≠ []) :
    (pre ++ mid ++ suf)[pre.length]? = mid.head? := by
  rw [List.append_assoc, getElem?_append_length, head?_append_of_ne_nil h]

theorem get_last_mid (pre mid suf : List Nat) (h : mid ≠ []) :
    (pre ++ mid ++ suf)[pre.length + mid.length - 1]? = mid.getLast? := by
  rw [← List.length_append, getElem?_append_pred _ _ (by simp [h]), getLast?_append_of_ne_nil _ h]

theorem slice_mid (pre mid suf : List Nat) :
    slice (pre ++ mid ++ suf) pre.length (pre.length + mid.length) = .ok mid := by
  unfold slice
  have h1 : (decide (pre.length ≤ pre.length + mid.length) && decide (pre.length + mid.length ≤ (pre ++ mid ++ suf).length)) = true := by
    simp
  rw [if_pos h1]
  simp [pure, Except.pure, List.append_assoc]

/-- every link the delta helpers look up: nothing when `c` says a neighbour is missing, else `g` of
    the two nodes read at `i` and `j` -/
theorem link_eq {β} (z : β) (g : Nat → Nat → β) {c : Prop} [Decidable c] {l1 l2 : List Nat} {i j : Nat}
    {x y : Option Nat} (hc : c ↔ x = none ∨ y = none) (hx : ¬ c → l1[i]? = x) (hy : ¬ c → l2[j]? = y) :
    (if c then pure z else do let a ← idxAt l1 i; let b ← idxAt l2 j; pure (g a b) : R β)
      = .ok (conn z g x y) := by
  by_cases h : c
  · rw [if_pos h]
    rcases hc.mp h with rfl | rfl
    · rfl
    · rw [conn_none_right]; rfl
  · rw [if_neg h]
    cases x with
    | none => exact absurd (hc.mpr (.inl rfl)) h
    | some a =>
      cases y with
      | none => exact absurd (hc.mpr (.inr rfl)) h
      | some b => simp only [idxAt, hx h, hy h]; rfl

theorem dhBeforeSeg_eq (nw : Network) (pre rest : List Nat) (hr : rest ≠ []) :
    dhBeforeSeg nw (pre ++ rest) pre.length = .ok (nw.connD pre.getLast? rest.head?) :=
  link_eq _ _ (by simp [hr]) (fun h => getElem?_append_pred _ _ (by simpa using h))
    (fun _ => getElem?_append_length _ _)

theorem dhAfterSeg_eq (nw : Network) (front suf : List Nat) (hf : front ≠ []) :
    dhAfterSeg nw (front ++ suf) front.length = .ok (nw.connD front.getLast? suf.head?) :=
  link_eq _ _ (by simp [hf]) (fun _ => getElem?_append_pred _ _ hf) (fun _ => getElem?_append_length _ _)

theorem dhEmptySeg_eq (nw : Network) (pre suf : List Nat) :
    dhEmptySeg nw (pre ++ suf) pre.length = .ok (nw.connD pre.getLast? suf.head?) :=
  link_eq _ _ (by simp) (fun h => getElem?_append_pred _ _ (by rintro rfl; simp at h))
    (fun _ => getElem?_append_length _ _)

/-- `dead_head_distance_of_segment` -/
theorem dhDistOfSegment_eq (nw : Network) (t : Tour) (pre mid suf : List Nat) (ht : t.nodes = pre ++ mid ++ suf) :
    dhDistOfSegment nw t pre.length (pre.length + mid.length) = .ok (nw.segD pre mid suf) := by
  unfold dhDistOfSegment
  rw [ht]
  cases mid with
  | nil =>
    simp only [List.length_nil, Nat.add_zero, ge_iff_le, Nat.le_refl, ↓reduceIte, List.append_nil, segD]
    exact dhEmptySeg_eq nw pre suf
  | cons m ms =>
    have hb := dhBeforeSeg_eq nw pre ((m :: ms) ++ suf) (by simp)
    rw [← List.append_assoc] at hb
    have ha := dhAfterSeg_eq nw (pre ++ (m :: ms)) suf (by simp)
    rw [List.length_append, getLast?_append_of_ne_nil _ (List.cons_ne_nil _ _)] at ha
    rw [if_neg (by simp), hb, ok_bind, slice_mid, ok_bind, ha]
    rfl

theorem dhBeforeNew_eq (nw : Network) (pre rest newNodes : List Nat) (hn : newNodes ≠ []) :
    dhBeforeNew nw (pre ++ rest) newNodes pre.length = .ok (nw.connD pre.getLast? newNodes.head?) :=
  link_eq _ _ (by simp [hn]) (fun h => getElem?_append_pred _ _ (by simpa using h))
    (fun _ => List.head?_eq_getElem?.symm)

theorem dhAfterNew_eq (nw : Network) (front suf newNodes : List Nat) (hn : newNodes ≠ []) :
    dhAfterNew nw (front ++ suf) newNodes front.length = .ok (nw.connD newNodes.getLast? suf.head?) :=
  link_eq _ _ (by cases suf <;> simp [hn]) (fun _ => List.getLast?_eq_getElem?.symm)
    (fun _ => getElem?_append_length _ _)

/-- `dead_head_distance_of_new_nodes` -/
theorem dhDistOfNewNodes_eq (nw : Network) (t : Tour) (pre mid suf newNodes : List Nat)
    (ht : t.nodes = pre ++ mid ++ suf) (hn : newNodes ≠ []) :
    dhDistOfNewNodes nw t newNodes pre.length (pre.length + mid.length) = .ok (nw.segD pre newNodes suf) := by
  have hb := dhBeforeNew_eq nw pre (mid ++ suf) newNodes hn
  rw [← List.append_assoc] at hb
  have ha := dhAfterNew_eq nw (pre ++ mid) suf newNodes hn
  rw [List.length_append] at ha
  rw [dhDistOfNewNodes, ht, hb, ok_bind, ha]
  cases newNodes with
  | nil => exact absurd rfl hn
  | cons n ns => rfl

theorem costBeforeNew_eq (nw : Network) (pre rest newNodes : List Nat) (hn : newNodes ≠ []) :
    costBeforeNew nw (pre ++ rest) newNodes pre.length = .ok (nw.connC pre.getLast? newNodes.head?) :=
  link_eq _ _ (by simp [hn]) (fun h => getElem?_append_pred _ _ (by simpa using h))
    (fun _ => List.head?_eq_getElem?.symm)

theorem costAfterNew_eq (nw : Network) (front suf newNodes : List Nat) (hn : newNodes ≠ []) :
    costAfterNew nw (front ++ suf) newNodes front.length = .ok (nw.connC newNodes.getLast? suf.head?) :=
  link_eq _ _ (by cases suf <;> simp [hn]) (fun _ => List.getLast?_eq_getElem?.symm)
    (fun _ => getElem?_append_length _ _)

/-- `costs_of_new_nodes` -/
theorem costsOfNewNodes_eq (nw : Network) (t : Tour) (pre mid suf newNodes : List Nat)
    (ht : t.nodes = pre ++ mid ++ suf) (hn : newNodes ≠ []) :
    costsOfNewNodes nw t newNodes pre.length (pre.length + mid.length) = .ok (nw.segC pre newNodes suf) := by
  have hb := costBeforeNew_eq nw pre (mid ++ suf) newNodes hn
  rw [← List.append_assoc] at hb
  have ha := costAfterNew_eq nw (pre ++ mid) suf newNodes hn
  rw [List.length_append] at ha
  rw [costsOfNewNodes, ht, hb, ok_bind, ha]
  cases newNodes with
  | nil => exact absurd rfl hn
  | cons n ns => rfl

theorem linkAfterUnchecked_eq (nw : Network) (t : Tour) (i a b : Nat)
    (ha : t.nodes[i]? = some a) (hb : t.nodes[i + 1]? = some b) :
    linkAfterUnchecked nw t i = .ok (nw.linkCost a b) := by
  simp only [linkAfterUnchecked, idxAt, ha, hb]
  rfl

theorem linkAfter_eq (nw : Network) (t : Tour) (front suf : List Nat) (ht : t.nodes = front ++ suf) (hf : front ≠ []) :
    linkAfter nw t (front.length - 1) = .ok (nw.connC front.getLast? suf.head?) := by
  have hl := List.length_pos_iff.mpr hf
  refine link_eq _ _ ?_ (fun _ => ht ▸ getElem?_append_pred _ _ hf) (fun _ => ?_)
  · cases suf <;> simp [ht, hf] <;> omega
  · rw [ht, Nat.sub_add_cancel hl, getElem?_append_length]

theorem linkBefore_eq (nw : Network) (t : Tour) (pre rest : List Nat) (ht : t.nodes = pre ++ rest) :
    linkBefore nw t pre.length = .ok (nw.connC pre.getLast? rest.head?) := by
  unfold linkBefore
  cases pre with
  | nil => rfl
  | cons p ps => exact linkAfter_eq nw t _ rest ht (by simp)

theorem pairs_eq_zip {α} : ∀ l : List α, pairs l = l.zip l.tail
  | [] => rfl
  | [_] => rfl
  | a :: b :: l => by rw [pairs, pairs_eq_zip (b :: l)]; rfl

theorem mapMR_shift {β} (f : Nat → R β) : ∀ (vs : List β) (k : Nat),
    (∀ i (h : i < vs.length), f (i + k) = .ok vs[i]) →
    mapMR f ((List.range vs.length).map (· + k)) = .ok vs
  | [], _, _ => rfl
  | v :: vs, k, h => by
    rw [List.length_cons, List.range_succ_eq_map, List.map_cons, List.map_map, mapMR, h 0 (by simp), ok_bind]
    have e : ((· + k) ∘ Nat.succ) = (· + (k + 1)) := funext fun i => Nat.succ_add_eq_add_succ i k
    rw [e, mapMR_shift f vs (k + 1) fun i hi => by
      rw [Nat.add_comm k 1, ← Nat.add_assoc]; exact h (i + 1) (Nat.succ_lt_succ hi)]
    rfl

theorem mapMR_links (nw : Network) (t : Tour) (mid pre suf : List Nat) (ht : t.nodes = pre ++ mid ++ suf) :
    mapMR (linkAfterUnchecked nw t) ((List.range (mid.length - 1)).map (· + pre.length))
      = .ok ((pairs mid).map (fun p => nw.linkCost p.1 p.2)) := by
  have hl : ((pairs mid).map (fun p => nw.linkCost p.1 p.2)).length = mid.length - 1 := by
    simp [pairs_eq_zip]
  rw [← hl]
  refine mapMR_shift _ _ _ fun i hi => ?_
  rw [hl] at hi
  rw [linkAfterUnchecked_eq nw t _ _ _ (ht ▸ getElem?_mid pre mid suf i (Nat.lt_of_lt_pred hi))
    (by rw [ht, Nat.add_right_comm]; exact getElem?_mid pre mid suf (i + 1) (Nat.add_lt_of_lt_sub hi))]
  simp only [pairs_eq_zip, List.getElem_map, List.getElem_zip, List.getElem_tail]

theorem mapMR_nodeCosts (nw : Network) (t : Tour) (mid pre suf : List Nat) (ht : t.nodes = pre ++ mid ++ suf) :
    mapMR (fun i => do let n ← idxAt t.nodes i; pure (nw.nodeCost n)) ((List.range mid.length).map (· + pre.length))
      = .ok (mid.map nw.nodeCost) := by
  have hl : (mid.map nw.nodeCost).length = mid.length := List.length_map _
  rw [← hl]
  refine mapMR_shift _ _ _ fun i hi => ?_
  rw [hl] at hi
  simp only [idxAt, ht, getElem?_mid pre mid suf i hi, List.getElem_map]
  rfl

/-- `costs_of_segment` -/
theorem costsOfSegment_eq (nw : Network) (t : Tour) (pre mid suf : List Nat) (ht : t.nodes = pre ++ mid ++ suf) :
    costsOfSegment nw t pre.length (pre.length + mid.length) = .ok (nw.segC pre mid suf) := by
  unfold costsOfSegment
  cases mid with
  | nil =>
    simp only [List.length_nil, Nat.add_zero, ge_iff_le, Nat.le_refl, ↓reduceIte, segC]
    exact linkBefore_eq nw t pre suf (by simpa using ht)
  | cons m ms =>
    have hb := linkBefore_eq nw t pre ((m :: ms) ++ suf) (by rw [ht]; simp)
    have ha := linkAfter_eq nw t (pre ++ (m :: ms)) suf ht (by simp)
    rw [List.length_append, getLast?_append_of_ne_nil _ (List.cons_ne_nil _ _)] at ha
    rw [if_neg (by simp), hb, ok_bind, Nat.sub_right_comm, Nat.add_sub_cancel_left,
      mapMR_links nw t (m :: ms) pre suf ht, ok_bind, ha, ok_bind, mapMR_nodeCosts nw t (m :: ms) pre suf ht]
    rfl

/-- the new link that closes the gap when `mid` is removed -/
theorem gap_eq {β} (z : β) (g : Nat → Nat → β) (pre mid suf : List Nat) (hm : mid ≠ []) :
    (if (pre.length == 0 || pre.length + mid.length - 1 == (pre ++ mid ++ suf).length - 1) = true then pure z else do
      let x ← idxAt (pre ++ mid ++ suf) (pre.length - 1)
      let y ← idxAt (pre ++ mid ++ suf) (pre.length + mid.length - 1 + 1)
      pure (g x y) : R β) = .ok (conn z g pre.getLast? suf.head?) := by
  have hl : 1 ≤ pre.length + mid.length := Nat.le_trans (List.length_pos_iff.mpr hm) (Nat.le_add_left ..)
  refine link_eq _ _ ?_ (fun h => ?_) (fun _ => ?_)
  · simp only [List.length_append, Nat.sub_add_comm hl, Bool.or_eq_true, beq_iff_eq, Nat.left_eq_add,
      List.length_eq_zero_iff, List.getLast?_eq_none_iff, List.head?_eq_none_iff]
  · rw [List.append_assoc, getElem?_append_pred _ _ (by rintro rfl; simp at h)]
  · rw [Nat.sub_add_cancel hl, ← List.length_append, getElem?_append_length]

theorem gapDist_eq (nw : Network) (pre mid suf : List Nat) (hm : mid ≠ []) :
    gapDist nw (pre ++ mid ++ suf) pre.length (pre.length + mid.length - 1) = .ok (nw.connD pre.getLast? suf.head?) :=
  gap_eq _ _ pre mid suf hm

theorem gapCost_eq (nw : Network) (pre mid suf : List Nat) (hm : mid ≠ []) :
    gapCost nw (pre ++ mid ++ suf) pre.length (pre.length + mid.length - 1) = .ok (nw.connC pre.getLast? suf.head?) :=
  gap_eq _ _ pre mid suf hm

end RSSched
