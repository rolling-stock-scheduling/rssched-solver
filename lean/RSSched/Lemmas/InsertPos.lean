/-
Lemmas/InsertPos: the position searches of `Tour::insert_path` (binary search + linear walk) return
the reference positions of Spec/Tour.lean — for every node list whose nodes end no later than
their successors start (valid real tours and dummy tours alike).
-/
import RSSched.Lemmas.BinSearch
import RSSched.Props.C17
namespace RSSched
open Network Tour Spec

theorem lastTrueLen_le (p : Nat → Bool) (n : Nat) : lastTrueLen p n ≤ n := by
  induction n with
  | zero => simp [lastTrueLen]
  | succ k ih => unfold lastTrueLen; split <;> omega

theorem lastTrueLen_true (p : Nat → Bool) (n : Nat) (h : 0 < lastTrueLen p n) :
    p (lastTrueLen p n - 1) = true := by
  induction n with
  | zero => simp [lastTrueLen] at h
  | succ k ih =>
    unfold lastTrueLen at h ⊢
    split
    · simpa
    · rename_i hp; simp only [hp, Bool.false_eq_true, ↓reduceIte] at h; exact ih h

theorem lastTrueLen_false_after (p : Nat → Bool) (n : Nat) :
    ∀ j, lastTrueLen p n ≤ j → j < n → p j = false := by
  induction n with
  | zero => intro j _ h; omega
  | succ k ih =>
    intro j h1 h2
    unfold lastTrueLen at h1
    split at h1
    · omega
    · rename_i hp
      by_cases hj : j = k
      · subst hj; simpa using hp
      · exact ih j h1 (by omega)

theorem lastTrueLen_ext (p : Nat → Bool) (k n : Nat) (h : k ≤ n)
    (hf : ∀ j, k ≤ j → j < n → p j = false) : lastTrueLen p n = lastTrueLen p k := by
  obtain ⟨m, rfl⟩ := Nat.exists_eq_add_of_le h
  induction m with
  | zero => rfl
  | succ m ih =>
    rw [← Nat.add_assoc, lastTrueLen, hf (k + m) (Nat.le_add_right ..) (Nat.lt_succ_self _),
      if_neg Bool.false_ne_true]
    exact ih (Nat.le_add_right ..) fun j h1 h2 => hf j h1 (Nat.lt_succ_of_lt h2)

theorem lastTrueLen_full (p : Nat → Bool) (n : Nat) (hn : 0 < n) (h : p (n - 1) = true) :
    lastTrueLen p n = n := by
  cases n with
  | zero => omega
  | succ k => unfold lastTrueLen; simp at h; simp [h]

theorem lastTrueLen_pos (p : Nat → Bool) (n : Nat) (hn : 0 < n) (h0 : p 0 = true) : 0 < lastTrueLen p n := by
  refine Nat.pos_of_ne_zero fun h => ?_
  rw [lastTrueLen_false_after p n 0 (Nat.le_of_eq h) hn] at h0
  cases h0

theorem firstTrueFrom_succ (p : Nat → Bool) (f i : Nat) :
    firstTrueFrom p (f + 1) i = if p i then i else firstTrueFrom p f (i + 1) := rfl

theorem firstTrueFrom_ge (p : Nat → Bool) (fuel i : Nat) : i ≤ firstTrueFrom p fuel i ∧ firstTrueFrom p fuel i ≤ i + fuel := by
  induction fuel generalizing i with
  | zero => simp [firstTrueFrom]
  | succ f ih =>
    unfold firstTrueFrom
    split
    · omega
    · have := ih (i + 1); omega

theorem firstTrueFrom_false_before (p : Nat → Bool) (fuel i : Nat) :
    ∀ j, i ≤ j → j < firstTrueFrom p fuel i → p j = false := by
  induction fuel generalizing i with
  | zero => intro j h1 h2; simp [firstTrueFrom] at h2; omega
  | succ f ih =>
    intro j h1 h2
    unfold firstTrueFrom at h2
    split at h2
    · omega
    · rename_i hp
      by_cases hj : j = i
      · subst hj; simpa using hp
      · exact ih (i + 1) j (by omega) h2

theorem firstTrueFrom_true (p : Nat → Bool) (fuel i : Nat) (h : firstTrueFrom p fuel i < i + fuel) :
    p (firstTrueFrom p fuel i) = true := by
  induction fuel generalizing i with
  | zero => simp [firstTrueFrom] at h
  | succ f ih =>
    unfold firstTrueFrom at h ⊢
    split
    · assumption
    · rename_i hp
      simp only [hp, Bool.false_eq_true, ↓reduceIte] at h
      exact ih (i + 1) (by omega)

theorem firstTrueFrom_lt (p : Nat → Bool) (n : Nat) (hn : 0 < n) (hl : p (n - 1) = true) : firstTrueFrom p n 0 < n := by
  have hle : firstTrueFrom p n 0 ≤ n := by have := (firstTrueFrom_ge p n 0).2; rwa [Nat.zero_add] at this
  refine Nat.lt_of_le_of_ne hle fun h => ?_
  have hlt : n - 1 < firstTrueFrom p n 0 := by rw [h]; exact Nat.sub_lt hn Nat.one_pos
  rw [firstTrueFrom_false_before p n 0 (n - 1) (Nat.zero_le _) hlt] at hl
  cases hl

theorem firstTrueFrom_skip (p : Nat → Bool) (m : Nat) : ∀ (k i : Nat), (∀ j, i ≤ j → j < i + k → p j = false) →
    firstTrueFrom p (k + m) i = firstTrueFrom p m (i + k)
  | 0, i, _ => by rw [Nat.zero_add]; rfl
  | k + 1, i, hf => by
    rw [Nat.add_right_comm, firstTrueFrom_succ, hf i (Nat.le_refl _) (Nat.lt_add_of_pos_right (Nat.succ_pos k)),
      if_neg Bool.false_ne_true, firstTrueFrom_skip p m k (i + 1) fun j h1 h2 =>
        hf j (Nat.le_of_succ_le h1) (by rwa [Nat.add_right_comm, Nat.add_assoc] at h2), Nat.add_right_comm,
      Nat.add_assoc]

theorem walkDown_eq (nw : Network) (nodes : List Nat) (x : Nat) (k : Nat) (hk : k ≤ nodes.length) :
    walkDown nw nodes x k = .ok (lastTrueLen (reachesAt nw nodes x) k) := by
  induction k with
  | zero => rfl
  | succ m ih =>
    unfold walkDown
    conv => rhs; unfold lastTrueLen
    rw [idxAt_ok nodes m (by omega)]
    simp only [bind, Except.bind]
    cases h : reachesAt nw nodes x m
    · have h' : nw.canReach (nodes.getD m 0) x = false := h
      rw [h']
      simp only [Bool.not_false, ↓reduceIte, Bool.false_eq_true]
      exact ih (by omega)
    · have h' : nw.canReach (nodes.getD m 0) x = true := h
      rw [h']
      simp only [Bool.not_true, Bool.false_eq_true, ↓reduceIte, pure, Except.pure]

/-- `walkUp` from `pos` with `k` nodes to the right of `pos` ends one before the first of them that
    `x` reaches -/
theorem walkUp_eq (nw : Network) (nodes : List Nat) (x : Nat) : ∀ (fuel pos k : Nat),
    nodes.length = pos + 1 + k → k ≤ fuel →
    ∃ q, walkUp nw nodes x fuel pos = .ok q ∧ q + 1 = firstTrueFrom (reachedAt nw nodes x) k (pos + 1)
  | 0, pos, k, _, hk => ⟨pos, rfl, by rw [Nat.le_zero.mp hk]; rfl⟩
  | _ + 1, pos, 0, hl, _ => ⟨pos, by rw [walkUp, if_neg (by rw [hl]; exact Nat.lt_irrefl pos)]; rfl, rfl⟩
  | f + 1, pos, k + 1, hl, hk => by
    have h1 : pos + 1 < nodes.length := by rw [hl]; exact Nat.lt_add_of_pos_right (Nat.succ_pos k)
    rw [walkUp, if_pos (Nat.lt_sub_of_add_lt h1), idxAt_ok nodes (pos + 1) h1, ok_bind, firstTrueFrom_succ]
    cases h : reachedAt nw nodes x (pos + 1)
    · obtain ⟨q, hq1, hq2⟩ := walkUp_eq nw nodes x f (pos + 1) k (hl.trans (Nat.add_right_comm (pos + 1) k 1))
        (Nat.le_of_succ_le_succ hk)
      exact ⟨q, by rw [show nw.canReach x (nodes.getD (pos + 1) 0) = false from h]; exact hq1, hq2⟩
    · exact ⟨pos, by rw [show nw.canReach x (nodes.getD (pos + 1) 0) = true from h]; rfl, rfl⟩

def TimeChain (nw : Network) (nodes : List Nat) : Prop :=
  ∀ i, i + 1 < nodes.length →
    ExtTime.le (nw.node (nodes.getD i 0)).endT (nw.node (nodes.getD (i + 1) 0)).startT = true

def NodesWF' (nw : Network) : Prop := ∀ i, ExtTime.le (nw.node i).startT (nw.node i).endT = true

theorem le_chain (f : Nat → ExtTime) (n : Nat) (h : ∀ k, k + 1 < n → ExtTime.le (f k) (f (k + 1)) = true) :
    ∀ i j, i ≤ j → j < n → ExtTime.le (f i) (f j) = true := by
  intro i j hij hj
  induction j with
  | zero => rw [Nat.le_zero.mp hij]; exact C17.ExtTime.le_refl _
  | succ k ih =>
    rcases Nat.le_succ_iff.mp hij with hik | rfl
    · exact C17.ExtTime.le_trans (ih hik (Nat.lt_of_succ_lt hj)) (h k hj)
    · exact C17.ExtTime.le_refl _

theorem monoEnd_of_timeChain (nw : Network) (hw : NodesWF' nw) (nodes : List Nat) (hc : TimeChain nw nodes) :
    MonoEnd nw nodes :=
  le_chain (fun k => (nw.node (nodes.getD k 0)).endT) _ fun k hk => C17.ExtTime.le_trans (hc k hk) (hw _)

theorem monoStart_of_timeChain (nw : Network) (hw : NodesWF' nw) (nodes : List Nat) (hc : TimeChain nw nodes) :
    MonoStart nw nodes :=
  le_chain (fun k => (nw.node (nodes.getD k 0)).startT) _ fun k hk => C17.ExtTime.le_trans (hw _) (hc k hk)

theorem reach_facts {nw : Network} {a b : Nat} (h : nw.canReach a b = true) :
    (nw.node b).isStartDepot = false ∧ (nw.node a).isEndDepot = false := by
  unfold canReach canReachNodes at h
  split at h
  · cases h
  · rename_i hc
    simp only [Bool.or_eq_true, not_or, Bool.not_eq_true] at hc
    exact hc

theorem late_cannot_reach (nw : Network) (hd : C17.DepotTimes nw) (a x : Nat)
    (h : ExtTime.lt (nw.node x).startT (nw.node a).endT = true) : nw.canReach a x = false := by
  cases hr : nw.canReach a x
  · rfl
  · have := C17.reach_end_le_start nw hd a x hr
    rw [ExtTime.not_lt_of_le this] at h; cases h

/-- **insertion start**: `latest_not_reaching_node` never faults and (with `None ↦ len`) equals the
    length of the longest prefix whose last node can reach `x` -/
theorem lnr_spec (nw : Network) (hd : C17.DepotTimes nw) (hw : NodesWF' nw) (t : Tour)
    (hc : TimeChain nw t.nodes) (hne : 0 < t.nodes.length) (x : Nat) :
    ∃ r, latestNotReachingNode nw true t x = .ok r ∧ r.getD t.nodes.length = keepPrefixLen nw t.nodes x := by
  have hl : t.nodes.length - 1 < t.nodes.length := Nat.sub_lt hne Nat.one_pos
  rw [latestNotReachingNode, Tour.lastNode, idxAt_ok t.nodes _ hl, ok_bind, keepPrefixLen]
  cases hlast : nw.canReach (t.nodes.getD (t.nodes.length - 1) 0) x
  · have hmono := monoEnd_of_timeChain nw hw t.nodes hc
    obtain ⟨res, he, hs, hn⟩ := earliestArrivalAfter_spec nw t.nodes (nw.node x).startT hmono 0 t.nodes.length hne
      (Nat.le_refl _)
    have hk : res.getD (t.nodes.length - 1) ≤ t.nodes.length := by
      cases res with
      | none => exact Nat.le_of_lt hl
      | some p => exact Nat.le_of_lt (hs p rfl).2.1
    rw [if_neg Bool.false_ne_true, he, ok_bind, walkDown_eq nw t.nodes x _ hk, ok_bind]
    refine ⟨_, rfl, (lastTrueLen_ext (reachesAt nw t.nodes x) _ _ hk fun j h1 h2 => ?_).symm⟩
    cases res with
    | none => rwa [Nat.le_antisymm (Nat.le_sub_one_of_lt h2) h1]
    | some p => exact late_cannot_reach nw hd _ _ (ExtTime.lt_of_lt_of_le (hs p rfl).2.2.1 (hmono p j h1 h2))
  · exact ⟨none, rfl, (lastTrueLen_full (reachesAt nw t.nodes x) _ hne hlast).symm⟩

/-- **insertion end**: `latest_not_reached_by_node` never faults and (`None ↦ 0`, `Some p ↦ p+1`)
    equals the start of the longest suffix whose first node `x` can reach -/
theorem lnrb_spec (nw : Network) (hd : C17.DepotTimes nw) (hw : NodesWF' nw) (t : Tour)
    (hc : TimeChain nw t.nodes) (hne : 0 < t.nodes.length) (x : Nat) :
    ∃ r, latestNotReachedByNode nw true t x = .ok r ∧
      (match r with | none => 0 | some p => p + 1) = keepSuffixStart nw t.nodes x := by
  rw [latestNotReachedByNode, Tour.firstNode, idxAt_ok t.nodes 0 hne, ok_bind, keepSuffixStart]
  cases hfirst : nw.canReach x (t.nodes.getD 0 0)
  · have hmono := monoStart_of_timeChain nw hw t.nodes hc
    obtain ⟨res, he, hs, hn⟩ := latestDepartureBefore_spec nw t.nodes (nw.node x).endT hmono 0 t.nodes.length hne
      (Nat.le_refl _)
    have hpos : res.getD 0 < t.nodes.length := by
      cases res with
      | none => exact hne
      | some p => exact (hs p rfl).2.1
    obtain ⟨k, hk⟩ : ∃ k, t.nodes.length = res.getD 0 + 1 + k := ⟨_, (Nat.add_sub_cancel' hpos).symm⟩
    obtain ⟨q, hq1, hq2⟩ := walkUp_eq nw t.nodes x t.nodes.length (res.getD 0) k hk (by omega)
    rw [if_neg Bool.false_ne_true, he, ok_bind, hq1, ok_bind]
    refine ⟨some q, rfl, hq2.trans ?_⟩
    rw [hk, firstTrueFrom_skip (reachedAt nw t.nodes x) k (res.getD 0 + 1) 0 fun j _ hj => ?_, Nat.zero_add]
    rw [Nat.zero_add] at hj
    cases res with
    | none => rwa [Nat.lt_one_iff.mp hj]
    | some p =>
      exact late_cannot_reach nw hd _ _
        (ExtTime.lt_of_le_of_lt (hmono j p (Nat.le_of_lt_succ hj) (hs p rfl).2.1) (hs p rfl).2.2.1)
  · refine ⟨none, rfl, ?_⟩
    obtain ⟨n, hn⟩ := Nat.exists_eq_succ_of_ne_zero (Nat.ne_of_gt hne)
    rw [hn, firstTrueFrom_succ, if_pos (show reachedAt nw t.nodes x 0 = true from hfirst)]

end RSSched
