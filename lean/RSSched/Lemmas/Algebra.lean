/-
Lemmas/Algebra: `Dist` and `Dur` are commutative monoids with an absorbing `inf`; subtraction
undoes addition on finite values (`delta`: a summand of a finite total is exchanged without
fault).
-/
import RSSched.Model.Tour
namespace RSSched

namespace Dist
@[simp] theorem add_inf_left (x : Dist) : add inf x = inf := by cases x <;> rfl
@[simp] theorem add_inf_right (x : Dist) : add x inf = inf := by cases x <;> rfl
@[simp] theorem add_zero_left (x : Dist) : add zero x = x := by cases x <;> simp [add, zero]
@[simp] theorem add_zero_right (x : Dist) : add x zero = x := by cases x <;> simp [add, zero]
theorem add_comm (x y : Dist) : add x y = add y x := by
  cases x <;> cases y <;> simp [add, Nat.add_comm]
theorem add_assoc (x y z : Dist) : add (add x y) z = add x (add y z) := by
  cases x <;> cases y <;> cases z <;> simp [add, Nat.add_assoc]
theorem add_eq_d {x y : Dist} {n : Nat} (h : add x y = d n) : ∃ a b, x = d a ∧ y = d b ∧ n = a + b := by
  cases x <;> cases y <;> simp [add] at h
  exact ⟨_, _, rfl, rfl, h.symm⟩
theorem sub_add_cancel (a b : Nat) : sub (d (a + b)) (d a) = .ok (d b) := by
  simp [sub]
theorem delta {tot a b c x : Dist} (htot : tot = add (add a b) c) (hfin : tot ≠ inf) (hx : sub tot b = .ok x)
    (n : Dist) : add x n = add (add a n) c := by
  subst htot
  cases a <;> cases b <;> cases c <;> simp only [add, ne_eq, not_true_eq_false] at hfin
  rw [add, add, sub, if_pos (by omega)] at hx
  cases hx
  cases n <;> simp only [add, d.injEq]
  omega
end Dist

namespace Dur
@[simp] theorem add_inf_left (x : Dur) : add inf x = inf := by cases x <;> rfl
@[simp] theorem add_inf_right (x : Dur) : add x inf = inf := by cases x <;> rfl
@[simp] theorem add_zero_left (x : Dur) : add zero x = x := by cases x <;> simp [add, zero]
@[simp] theorem add_zero_right (x : Dur) : add x zero = x := by cases x <;> simp [add, zero]
theorem add_comm (x y : Dur) : add x y = add y x := by
  cases x <;> cases y <;> simp [add, Nat.add_comm]
theorem add_assoc (x y z : Dur) : add (add x y) z = add x (add y z) := by
  cases x <;> cases y <;> cases z <;> simp [add, Nat.add_assoc]
theorem add_eq_len {x y : Dur} {n : Nat} (h : add x y = len n) : ∃ a b, x = len a ∧ y = len b ∧ n = a + b := by
  cases x <;> cases y <;> simp [add] at h
  exact ⟨_, _, rfl, rfl, h.symm⟩
theorem sub_add_cancel (a b : Nat) : sub (len (a + b)) (len a) = .ok (len b) := by
  simp [sub, le]
theorem delta {tot a b c x : Dur} (htot : tot = add (add a b) c) (hfin : tot ≠ inf) (hx : sub tot b = .ok x)
    (n : Dur) : add x n = add (add a n) c := by
  subst htot
  cases a <;> cases b <;> cases c <;> simp only [add, ne_eq, not_true_eq_false] at hfin
  rw [add, add, sub, if_neg (by simp [le]; omega)] at hx
  cases hx
  cases n <;> simp only [add, len.injEq]
  omega
end Dur

instance : Std.Associative Dist.add := ⟨Dist.add_assoc⟩
instance : Std.Associative Dur.add := ⟨Dur.add_assoc⟩

theorem foldl_op_cons {α} (op : α → α → α) [Std.Associative op] (z : α) (hl : ∀ a, op z a = a)
    (hr : ∀ a, op a z = a) (x : α) (xs : List α) : (x :: xs).foldl op z = op x (xs.foldl op z) := by
  rw [List.foldl_cons, hl, ← List.foldl_assoc (op := op), hr]

theorem foldl_op_append {α} (op : α → α → α) [Std.Associative op] (z : α) (hr : ∀ a, op a z = a)
    (l1 l2 : List α) : (l1 ++ l2).foldl op z = op (l1.foldl op z) (l2.foldl op z) := by
  rw [List.foldl_append, ← List.foldl_assoc (op := op), hr]

namespace Network

@[simp] theorem sumDist_nil : sumDist [] = Dist.zero := rfl
theorem sumDist_cons (x : Dist) (xs : List Dist) : sumDist (x :: xs) = Dist.add x (sumDist xs) :=
  foldl_op_cons Dist.add Dist.zero Dist.add_zero_left Dist.add_zero_right x xs
theorem sumDist_append (l1 l2 : List Dist) : sumDist (l1 ++ l2) = Dist.add (sumDist l1) (sumDist l2) :=
  foldl_op_append Dist.add Dist.zero Dist.add_zero_right l1 l2

@[simp] theorem sumDur_nil : sumDur [] = Dur.zero := rfl
theorem sumDur_cons (x : Dur) (xs : List Dur) : sumDur (x :: xs) = Dur.add x (sumDur xs) :=
  foldl_op_cons Dur.add Dur.zero Dur.add_zero_left Dur.add_zero_right x xs
theorem sumDur_append (l1 l2 : List Dur) : sumDur (l1 ++ l2) = Dur.add (sumDur l1) (sumDur l2) :=
  foldl_op_append Dur.add Dur.zero Dur.add_zero_right l1 l2

theorem sumNat_cons (x : Nat) (xs : List Nat) : sumNat (x :: xs) = x + sumNat xs := rfl
theorem sumNat_append (l1 l2 : List Nat) : sumNat (l1 ++ l2) = sumNat l1 + sumNat l2 := List.sum_append

end Network
end RSSched
