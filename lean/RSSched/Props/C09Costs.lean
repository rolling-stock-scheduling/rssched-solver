/-
Props/C09Costs: the cached cost of a schedule equals Σ tour costs + staff term after every history
of public modifications with any arguments (C09 / C04, fourth objective level, for the model). Needs
the listing invariant (C10Listing) and that dummy tours are keyed by dummy ids only (`DummyInv`,
proved here for every history as well). The three depot-choosing folds need a duplicate-free vehicle
list; for `improve_depots(Some(list))` that follows from the success of the call, which first takes
every listed vehicle out of the start set of its depot and cannot do so twice (`C09A.improve_nodup`).
-/
import RSSched.Lemmas.Algebra
import RSSched.Props.C10Listing
namespace RSSched.C09A
open Schedule

/-- `v` is not in the start set stored under key `k` -/
def GoneAt (u : DepotUsage) (k : Nat × Nat) (v : Veh) : Prop :=
  ∀ e, assocGet? u k = some e → e.1.contains v = false

theorem contains_filter_ne (l : List Veh) (v w : Veh) (h : l.contains v = false) :
    (l.filter (· != w)).contains v = false := by
  rw [List.contains_eq_mem, decide_eq_false_iff_not] at h ⊢
  exact fun hm => h (List.mem_filter.mp hm).1

theorem contains_filter_self (l : List Veh) (v : Veh) : (l.filter (· != v)).contains v = false := by
  rw [List.contains_eq_mem, decide_eq_false_iff_not]
  exact fun hm => bne_iff_ne.mp (List.mem_filter.mp hm).2 rfl

theorem goneAt_set {u : DepotUsage} {k k' : Nat × Nat} {v : Veh} {e' : List Veh × List Veh} (hg : GoneAt u k v)
    (h' : k = k' → e'.1.contains v = false) : GoneAt (assocSet u k' e') k v := by
  intro e he
  rw [assocGet?_assocSet] at he
  by_cases ek : k = k'
  · rw [if_pos ek] at he
    cases he
    exact h' ek
  · rw [if_neg ek] at he
    exact hg e he

theorem takeOut_mono {nw : Network} {s : Schedule} {u u' : DepotUsage} {w : Veh} (h : takeOut nw s u w = .ok u')
    (k : Nat × Nat) (v : Veh) (hg : GoneAt u k v) : GoneAt u' k v := by
  obtain ⟨r, rfl⟩ := takeOut_ok h
  have hmid : GoneAt (assocSet u (nw.depotIdxOf r.sd, r.vt) (r.startEntry.1.filter (· != w), r.startEntry.2)) k v :=
    goneAt_set hg (fun ek => contains_filter_ne _ _ _ (hg r.startEntry (ek ▸ r.startEntry_eq)))
  exact goneAt_set hmid (fun ek => hmid r.endEntry (ek ▸ r.endEntry_eq))

theorem takeOut_gone {nw : Network} {s : Schedule} {u u' : DepotUsage} {v : Veh} (h : takeOut nw s u v = .ok u') :
    ∃ vt t sd, s.typeOf? v = some vt ∧ s.tourOf? v = some t ∧ Transition.startDepotU nw t = .ok sd ∧
      GoneAt u' (nw.depotIdxOf sd, vt) v := by
  obtain ⟨r, rfl⟩ := takeOut_ok h
  refine ⟨r.vt, r.t, r.sd, r.type_eq, r.tour_eq, r.start_eq, ?_⟩
  have hmid : GoneAt (assocSet u (nw.depotIdxOf r.sd, r.vt) (r.startEntry.1.filter (· != v), r.startEntry.2))
      (nw.depotIdxOf r.sd, r.vt) v := by
    intro e he
    rw [assocGet?_assocSet, if_pos rfl] at he
    cases he
    exact contains_filter_self _ _
  exact goneAt_set hmid (fun ek => hmid r.endEntry (ek ▸ r.endEntry_eq))

theorem takeOut_fails {nw : Network} {s : Schedule} {u u' : DepotUsage} {v : Veh} {vt sd : Nat} {t : Tour}
    (hvt : s.typeOf? v = some vt) (ht : s.tourOf? v = some t) (hsd : Transition.startDepotU nw t = .ok sd)
    (hg : GoneAt u (nw.depotIdxOf sd, vt) v) (h : takeOut nw s u v = .ok u') : False := by
  obtain ⟨r, -⟩ := takeOut_ok h
  have hvt' := hvt.symm.trans r.type_eq
  have ht' := ht.symm.trans r.tour_eq
  have he1 := r.startEntry_eq
  have hsd' := r.start_eq
  rw [← Option.some.inj hvt'] at he1
  rw [← Option.some.inj ht', hsd] at hsd'
  rw [← Except.ok.inj hsd'] at he1
  -- the removal is guarded by `v` being in the start set it is taken from
  have hc1 := r.start_mem
  rw [hg r.startEntry he1] at hc1
  cases hc1

theorem takeOutAll_nodup {nw : Network} {s : Schedule} : ∀ (L : List Veh) (u u' : DepotUsage),
    L.foldlM (takeOut nw s) u = .ok u' → L.Nodup
  | [], _, _, _ => List.nodup_nil
  | v :: rest, u, u', h => by
    rw [List.foldlM_cons] at h
    obtain ⟨u1, h1, h⟩ := bind_ok h
    refine List.nodup_cons.mpr ⟨?_, takeOutAll_nodup rest u1 u' h⟩
    intro hm
    obtain ⟨vt, t, sd, hvt, ht, hsd, hg⟩ := takeOut_gone h1
    -- `v` stays gone while the loop runs, so its second removal cannot succeed
    have key : ∀ (L : List Veh) (w w' : DepotUsage), GoneAt w (nw.depotIdxOf sd, vt) v →
        L.foldlM (takeOut nw s) w = .ok w' → v ∉ L := by
      intro L
      induction L with
      | nil => intro _ _ _ _ hx; cases hx
      | cons x xs ih =>
        intro w w' hgw hf hx
        rw [List.foldlM_cons] at hf
        obtain ⟨w1, hw1, hf⟩ := bind_ok hf
        rcases List.mem_cons.mp hx with e | hxs
        · subst e; exact takeOut_fails hvt ht hsd hgw hw1
        · exact ih w1 w' (takeOut_mono hw1 _ _ hgw) hf hxs
    exact key rest u1 u' hg h hm

theorem improve_nodup {nw : Network} {s s' : Schedule} {vs : List Veh}
    (h : improveDepots nw s (some vs) = .ok s') : vs.Nodup := by
  obtain ⟨usage0, _, _, _, _, _, h0, -, -, -⟩ := improveDepots_ok h
  exact takeOutAll_nodup vs _ usage0 h0

end RSSched.C09A

namespace RSSched.C09C
open Schedule C02 C10L

def DK (T : Tours) : Prop := ∀ d, (assocGet? T d).isSome = true → d.dummy = true
def DummyInv (s : Schedule) : Prop := DK s.dummyTours

theorem DK_parkDummy {nw : Network} {T : Tours} {ids : List Veh} {c : Nat} {path : List Nat} (h : DK T) :
    DK (parkDummy nw T ids c path).1 :=
  parkDummy_keeps (Q := fun T _ => DK T) h (fun _ _ => forall_keys_assocSet h rfl)

theorem updateTourAndCosts_DK {s : Schedule} {tours dummyTours : Tours} {costs : Nat} {v : Veh} {t : Tour}
    {r : Tours × Tours × Nat} (hs : DK s.dummyTours) (hd : DK dummyTours)
    (h : updateTourAndCosts s tours dummyTours costs v t = .ok r) : DK r.2.1 := by
  rcases updateTourAndCosts_ok h with ⟨hdum, rfl⟩ | ⟨-, _, -, -, rfl⟩
  · exact forall_keys_assocSet hd (hs v hdum)
  · exact hd

theorem empty_dk (nw : Network) : DummyInv (Schedule.empty nw) := by
  intro d hd
  simp [Schedule.empty, assocGet?_nil] at hd

theorem spawn_dk {nw : Network} {s s' : Schedule} {vt : Nat} {path : List Nat} {v : Veh}
    (hd : DummyInv s) (h : spawnVehicleForPath nw s vt path = .ok (s', v)) : DummyInv s' := by
  obtain ⟨_, rfl⟩ := spawnVehicleForPath_ok h
  exact hd

theorem delete_dk {nw : Network} {s s' : Schedule} {v : Veh}
    (hd : DummyInv s) (h : replaceVehicleByDummy nw s v = .ok s') : DummyInv s' := by
  obtain ⟨_, rfl⟩ := replaceVehicleByDummy_ok h
  exact DK_parkDummy hd

theorem deleteDummy_dk {s s1 : Schedule} {d : Veh} (hd : DummyInv s) (h : deleteDummy s d = .ok s1) : DummyInv s1 := by
  obtain ⟨-, -, rfl⟩ := deleteDummy_ok h
  exact forall_keys_assocErase hd

theorem dummySpawn_dk {nw : Network} {s s' : Schedule} {d : Veh} {vt : Nat} {v : Veh}
    (hd : DummyInv s) (h : spawnToReplaceDummy nw s d vt = .ok (s', v)) : DummyInv s' := by
  obtain ⟨_, s1, -, -, hdel, hspawn⟩ := spawnToReplaceDummy_ok h
  exact spawn_dk (deleteDummy_dk hd hdel) hspawn

theorem addPath_dk {nw : Network} {s s' : Schedule} {v : Veh} {path : List Nat} {rm : Option (List Nat)}
    (hd : DummyInv s) (h : addPathToVehicleTour nw s v path = .ok (s', rm)) : DummyInv s' := by
  obtain ⟨_, rfl⟩ := addPathToVehicleTour_ok h
  exact hd

theorem rmSeg_dk {nw : Network} {s s' : Schedule} {v : Veh} {a b : Nat}
    (hd : DummyInv s) (h : removeSegment nw s v a b = .ok s') : DummyInv s' := by
  obtain ⟨_, shrunk, _, -, -, -, h⟩ := removeSegment_ok h
  cases shrunk with
  | none => exact delete_dk hd h
  | some newTour =>
    obtain ⟨r, rfl⟩ := h
    exact DK_parkDummy (updateTourAndCosts_DK hd hd r.tours_eq)

theorem updateTours_dk {nw : Network} {s : Schedule} {w w' : Work} {p : Veh} {newProv : Option Tour}
    {receiver : Veh} {newRecv : Tour} {moved : List Nat} (hd : DummyInv s) (hw : DK w.dummyTours)
    (h : updateTours nw s w (some p) newProv receiver newRecv moved = .ok w') : DK w'.dummyTours := by
  obtain ⟨w0, _, _, _, _, _, _, _, hprov, -, hutc, -, -, rfl⟩ := updateTours_ok h
  have h0 : DK w0.dummyTours := by
    cases hprov with
    | shrunk hu => exact updateTourAndCosts_DK hd hw hu
    | dummyGone => exact forall_keys_assocErase hw
    | vehicleGone => exact hw
    | absent => exact hw
  exact updateTourAndCosts_DK hd h0 hutc

theorem fit_dk {nw : Network} {s s' : Schedule} {p r : Veh} {a b : Nat}
    (hd : DummyInv s) (h : fitReassign nw s p r a b = .ok s') : DummyInv s' := by
  obtain ⟨x, rfl⟩ := fitReassign_ok h
  exact updateTours_dk (w := Work.ofSchedule s) hd hd x.update_eq

theorem override_dk {nw : Network} {s s' : Schedule} {p r : Veh} {a b : Nat} {d : Option Veh}
    (hd : DummyInv s) (h : overrideReassign nw s p r a b = .ok (s', d)) : DummyInv s' := by
  obtain ⟨replaced, x, -, rfl⟩ := overrideReassign_ok h
  have hw' := updateTours_dk (w := Work.ofSchedule s) hd hd x.update_eq
  cases replaced with
  | none => exact hw'
  | some np => exact DK_parkDummy hw'

theorem depotOnly_dk {s s' : Schedule} (hd : DummyInv s) (h : DepotOnly s s') : DummyInv s' := by
  obtain ⟨_, _, _, _, _, rfl⟩ := h
  exact hd

theorem dk_step (nw : Network) (s : Schedule) (op : Spec.SOp) (r : OpResult)
    (hd : DummyInv s) (h : applyOp nw s op = .ok r) : DummyInv r.sched :=
  applyOp_cases (motive := fun _ s' => DummyInv s')
    (empty_dk nw)
    (fun _ _ _ _ => spawn_dk hd)
    (fun _ _ _ _ => dummySpawn_dk hd)
    (fun _ _ => delete_dk hd)
    (fun _ _ _ _ _ _ => addPath_dk hd)
    (fun _ _ _ _ => rmSeg_dk hd)
    (fun _ _ _ _ _ => fit_dk hd)
    (fun _ _ _ _ _ _ => override_dk hd)
    (fun _ _ hs => depotOnly_dk hd (improveDepots_depotOnly hs))
    (fun _ hs => depotOnly_dk hd (reassignEndDepotsGreedily_depotOnly hs))
    (fun _ _ hs => depotOnly_dk hd (recomputeTransitionsFor_depotOnly hs))
    (fun _ hs => depotOnly_dk hd (reassignEndDepotsConsistent_depotOnly hs))
    (fun _ _ _ _ _ _ _ => hd)
    h

def sumCost (T : Tours) : Nat := sumNat (T.map (fun p => p.2.costs))
def staffTerm (nw : Network) : Nat := nw.numberOfServiceNodes * nw.cStaff
def CostEq (nw : Network) (s : Schedule) : Prop := s.costs = sumCost s.tours + staffTerm nw

theorem sumCost_cons (k : Veh) (t : Tour) (T : Tours) : sumCost ((k, t) :: T) = t.costs + sumCost T := rfl

theorem sumCost_append (T1 T2 : Tours) : sumCost (T1 ++ T2) = sumCost T1 + sumCost T2 := by
  unfold sumCost; rw [List.map_append, Network.sumNat_append]

theorem sumCost_set_absent (T : Tours) (v : Veh) (t : Tour) (h : assocGet? T v = none) :
    sumCost (assocSet T v t) = sumCost T + t.costs := by
  have hany : ¬ (T.any (fun q => decide (q.1 = v)) = true) := by
    intro ha
    obtain ⟨q, hq, hk⟩ := List.any_eq_true.mp ha
    exact (assocGet?_eq_none_iff T v).mp h (List.mem_map.mpr ⟨q, hq, by simpa using hk⟩)
  unfold assocSet
  rw [if_neg hany, sumCost_append]
  simp [sumCost, sumNat]

theorem sumCost_set_present (T : Tours) (v : Veh) (old t : Tour) (hnd : (T.map (·.1)).Nodup)
    (h : assocGet? T v = some old) : sumCost (assocSet T v t) + old.costs = sumCost T + t.costs := by
  obtain ⟨pre, suf, rfl, hset, -⟩ := assoc_split hnd h
  rw [hset, sumCost_append, sumCost_append, sumCost_cons, sumCost_cons]
  omega

theorem sumCost_erase (T : Tours) (v : Veh) (old : Tour) (hnd : (T.map (·.1)).Nodup)
    (h : assocGet? T v = some old) : sumCost (assocErase T v) + old.costs = sumCost T := by
  obtain ⟨pre, suf, rfl, -, herase⟩ := assoc_split hnd h
  rw [herase, sumCost_append, sumCost_append, sumCost_cons]
  omega

theorem empty_cost (nw : Network) : CostEq nw (Schedule.empty nw) := by
  unfold CostEq Schedule.empty staffTerm sumCost
  simp [sumNat]

theorem vehicle_not_dummy {s : Schedule} (hi : ListInv s) (hd : DummyInv s) {v : Veh}
    (hv : s.isVehicle v = true) : s.isDummy v = false := by
  cases hdm : s.isDummy v with
  | false => rfl
  | true =>
    have h2 := (hi.fresh v ((isVehicle_eq_hasTour hi v).symm.trans hv)).1
    rw [hd v hdm] at h2
    cases h2

theorem counter_no_tour {s : Schedule} (hi : ListInv s) : assocGet? s.tours (Veh.real s.counter) = none :=
  Option.not_isSome_iff_eq_none.mp fun hs => Nat.lt_irrefl _ (hi.fresh _ hs).2

theorem spawn_cost {nw : Network} {s s' : Schedule} {vt : Nat} {path : List Nat} {v : Veh}
    (hi : ListInv s) (hc : CostEq nw s) (h : spawnVehicleForPath nw s vt path = .ok (s', v)) : CostEq nw s' := by
  obtain ⟨r, rfl⟩ := spawnVehicleForPath_ok h
  obtain rfl := r.veh_eq
  show s.costs + r.tour.costs = sumCost (assocSet s.tours (Veh.real s.counter) r.tour) + staffTerm nw
  rw [sumCost_set_absent _ _ _ (counter_no_tour hi), hc]
  omega

theorem delete_cost {nw : Network} {s s' : Schedule} {v : Veh}
    (hi : ListInv s) (hc : CostEq nw s) (h : replaceVehicleByDummy nw s v = .ok s') : CostEq nw s' := by
  obtain ⟨r, rfl⟩ := replaceVehicleByDummy_ok h
  show s.costs - r.tour.costs = sumCost (assocErase s.tours v) + staffTerm nw
  have := sumCost_erase s.tours v r.tour hi.tourKeys r.tour_eq
  rw [hc]
  omega

theorem addPath_cost {nw : Network} {s s' : Schedule} {v : Veh} {path : List Nat} {rm : Option (List Nat)}
    (hi : ListInv s) (hc : CostEq nw s) (h : addPathToVehicleTour nw s v path = .ok (s', rm)) : CostEq nw s' := by
  obtain ⟨r, rfl⟩ := addPathToVehicleTour_ok h
  have hle := r.costs_le
  show s.costs + r.newTour.costs - r.old.costs = sumCost (assocSet s.tours v r.newTour) + staffTerm nw
  have := sumCost_set_present s.tours v r.old r.newTour hi.tourKeys r.old_eq
  rw [hc] at hle ⊢
  omega

theorem utc_cost {s : Schedule} {tours dummyTours : Tours} {costs K : Nat} {v : Veh} {t : Tour}
    {r : Tours × Tours × Nat} (hnd : (tours.map (·.1)).Nodup) (hc : costs = sumCost tours + K)
    (h : updateTourAndCosts s tours dummyTours costs v t = .ok r) :
    (r.1.map (·.1)).Nodup ∧ r.2.2 = sumCost r.1 + K := by
  rcases updateTourAndCosts_ok h with ⟨-, rfl⟩ | ⟨-, old, hold, hle, rfl⟩
  · exact ⟨hnd, hc⟩
  · refine ⟨assocSet_keys_nodup _ _ _ hnd, ?_⟩
    have := sumCost_set_present tours v old t hnd hold
    show costs + t.costs - old.costs = sumCost (assocSet tours v t) + K
    omega

theorem rmSeg_cost {nw : Network} {s s' : Schedule} {v : Veh} {a b : Nat}
    (hi : ListInv s) (hc : CostEq nw s) (h : removeSegment nw s v a b = .ok s') : CostEq nw s' := by
  obtain ⟨_, shrunk, _, -, -, -, h⟩ := removeSegment_ok h
  cases shrunk with
  | none => exact delete_cost hi hc h
  | some newTour =>
    obtain ⟨r, rfl⟩ := h
    exact (utc_cost hi.tourKeys hc r.tours_eq).2

theorem tourOf_vehicle {s : Schedule} (hi : ListInv s) {p : Veh} (hv : s.isVehicle p = true) :
    s.tourOf? p = assocGet? s.tours p ∧ (assocGet? s.tours p).isSome = true := by
  have h2 : (assocGet? s.tours p).isSome = true := (isVehicle_eq_hasTour hi p).symm.trans hv
  obtain ⟨t, ht⟩ := Option.isSome_iff_exists.mp h2
  exact ⟨by simp [Schedule.tourOf?, ht], h2⟩

theorem providerGone_cost {nw : Network} {s : Schedule} (hi : ListInv s) (hc : CostEq nw s) {p : Veh} {costs : Nat}
    (hcosts : ProviderCosts s (Work.ofSchedule s) p costs) (hv : s.isVehicle p = true) :
    costs = sumCost (assocErase s.tours p) + staffTerm nw := by
  rw [ProviderCosts, if_pos hv, (tourOf_vehicle hi hv).1] at hcosts
  obtain ⟨t, ht, hle, rfl⟩ := hcosts
  have := sumCost_erase s.tours p t hi.tourKeys ht
  show s.costs - t.costs = _
  rw [hc]
  omega

theorem updateTours_cost {nw : Network} {s : Schedule} {w' : Work} {p : Veh} {newProv : Option Tour}
    {receiver : Veh} {newRecv : Tour} {moved : List Nat} (hi : ListInv s) (hd : DummyInv s) (hc : CostEq nw s)
    (h : updateTours nw s (Work.ofSchedule s) (some p) newProv receiver newRecv moved = .ok w') :
    w'.costs = sumCost w'.tours + staffTerm nw := by
  obtain ⟨w0, _, _, _, _, _, _, _, hprov, -, hutc, -, -, rfl⟩ := updateTours_ok h
  have h0 : (w0.tours.map (·.1)).Nodup ∧ w0.costs = sumCost w0.tours + staffTerm nw := by
    cases hprov with
    | shrunk hu => exact utc_cost hi.tourKeys hc hu
    | dummyGone hcosts hdum _ =>
      have hv : ¬ s.isVehicle p = true := fun hv => by rw [vehicle_not_dummy hi hd hv] at hdum; cases hdum
      rw [ProviderCosts, if_neg hv] at hcosts
      exact ⟨hi.tourKeys, hcosts.trans hc⟩
    | vehicleGone hcosts _ hv _ _ => exact ⟨assocErase_keys_nodup _ _ hi.tourKeys, providerGone_cost hi hc hcosts hv⟩
    | absent => exact ⟨hi.tourKeys, hc⟩
  exact (utc_cost h0.1 h0.2 hutc).2

theorem fit_cost {nw : Network} {s s' : Schedule} {p r : Veh} {a b : Nat}
    (hi : ListInv s) (hd : DummyInv s) (hc : CostEq nw s) (h : fitReassign nw s p r a b = .ok s') : CostEq nw s' := by
  obtain ⟨x, rfl⟩ := fitReassign_ok h
  exact updateTours_cost hi hd hc x.update_eq

theorem override_cost {nw : Network} {s s' : Schedule} {p r : Veh} {a b : Nat} {d : Option Veh}
    (hi : ListInv s) (hd : DummyInv s) (hc : CostEq nw s) (h : overrideReassign nw s p r a b = .ok (s', d)) :
    CostEq nw s' := by
  obtain ⟨_, x, -, rfl⟩ := overrideReassign_ok h
  exact updateTours_cost hi hd hc x.update_eq

/-- the three depot-choosing folds: each step replaces one not yet replaced tour and moves the
    running cost by the difference -/
theorem fold_cost (s : Schedule) (K : Nat) (F : Acc → Veh → R Acc) {L : List Veh} {acc acc' : Acc}
    (h : L.foldlM F acc = .ok acc')
    (hF : ∀ c v c', v ∈ L → F c v = .ok c' → ∃ t nt u, assocGet? s.tours v = some t ∧
      t.costs ≤ c.2.2 + nt.costs ∧ c' = (assocSet c.1 v nt, u, c.2.2 + nt.costs - t.costs))
    (hnd : L.Nodup) (hk : (acc.1.map (·.1)).Nodup) (hag : ∀ v ∈ L, assocGet? acc.1 v = assocGet? s.tours v)
    (hc : acc.2.2 = sumCost acc.1 + K) : acc'.2.2 = sumCost acc'.1 + K := by
  refine (foldlM_tours_induct (J := fun c => (c.1.map (·.1)).Nodup ∧ c.2.2 = sumCost c.1 + K) L acc acc' hnd hag
    (fun v hv c c' hJ hv0 hstep => ?_) ⟨hk, hc⟩ h).2
  obtain ⟨t, nt, u, hst, hle, rfl⟩ := hF c v c' hv hstep
  have hsum := sumCost_set_present c.1 v t nt hJ.1 (hv0.trans hst)
  refine ⟨⟨assocSet_keys_nodup _ _ _ hJ.1, ?_⟩, nt, rfl⟩
  show c.2.2 + nt.costs - t.costs = sumCost (assocSet c.1 v nt) + K
  omega

theorem vehiclesAll_nodup {nw : Network} {s : Schedule} (hi : ListInv s) : (s.vehiclesAll nw).Nodup := by
  refine List.pairwise_flatMap.mpr ⟨fun vt _ => ?_, List.nodup_range.imp fun hab y hya z hyb e => hab ?_⟩
  · unfold Schedule.vehiclesOfType
    cases hg : assocGet? s.idsByType vt with
    | none => exact List.nodup_nil
    | some l => exact hi.idsNodup vt l hg
  · subst e
    exact Option.some.inj ((vehiclesOfType_typed hi hya).symm.trans (vehiclesOfType_typed hi hyb))

theorem listed_isVehicle {nw : Network} {s : Schedule} (hi : ListInv s) {v : Veh} (hv : v ∈ s.vehiclesAll nw) :
    s.isVehicle v = true :=
  (isVehicle_eq_hasTour hi v).trans (listed_hasTour hi hv)

theorem typed_isVehicle {s : Schedule} {v : Veh} {vt : Nat} (h : s.typeOf? v = some vt) : s.isVehicle v = true :=
  Option.isSome_of_eq_some h

theorem endConsistent_cost {nw : Network} {s s' : Schedule}
    (hi : ListInv s) (hc : CostEq nw s) (h : reassignEndDepotsConsistent nw s = .ok s') : CostEq nw s' := by
  obtain ⟨_, _, _, _, _, hfold, -, rfl⟩ := reassignEndDepotsConsistent_ok h
  exact fold_cost s (staffTerm nw) (C05.endStep nw s) hfold
    (fun acc v acc' _ hstep => by
      obtain ⟨r, e⟩ := C05.endStep_ok hstep
      exact ⟨r.t, r.nt, r.u', (tourOf_vehicle hi (typed_isVehicle r.type_eq)).1 ▸ r.tour_eq, r.costs_le, e⟩)
    (vehiclesAll_nodup hi) hi.tourKeys (fun _ _ => rfl) hc

theorem endGreedy_cost {nw : Network} {s s' : Schedule}
    (hi : ListInv s) (hc : CostEq nw s) (h : reassignEndDepotsGreedily nw s = .ok s') : CostEq nw s' := by
  obtain ⟨_, _, _, _, _, hfold, -, rfl⟩ := reassignEndDepotsGreedily_ok h
  exact fold_cost s (staffTerm nw) (greedyStep nw s) hfold
    (fun acc v acc' hv hstep => by
      obtain ⟨r, e⟩ := greedyStep_ok hstep
      exact ⟨r.t, r.nt, r.u', (tourOf_vehicle hi (listed_isVehicle hi hv)).1 ▸ r.tour_eq, r.costs_le, e⟩)
    (vehiclesAll_nodup hi) hi.tourKeys (fun _ _ => rfl) hc

/-- the list handed to `improve_depots(Some(..))` is duplicate-free; implied by success
    (`C09A.improve_nodup`) -/
def ArgsOK : Spec.SOp → Prop
  | .improve (some vs) => vs.Nodup
  | _ => True

theorem improve_cost {nw : Network} {s s' : Schedule} {vs : Option (List Veh)}
    (hi : ListInv s) (hc : CostEq nw s) (h : improveDepots nw s vs = .ok s') : CostEq nw s' := by
  obtain ⟨_, _, _, _, _, _, -, hfold, -, rfl⟩ := improveDepots_ok h
  have hL : (vs.getD (s.vehiclesAll nw)).Nodup := by
    cases vs with
    | none => exact vehiclesAll_nodup hi
    | some l => exact C09A.improve_nodup h
  exact fold_cost s (staffTerm nw) (improveStep nw s) hfold
    (fun acc v acc' _ hstep => by
      obtain ⟨r, e⟩ := improveStep_ok hstep
      exact ⟨r.t, r.nt, _, (tourOf_vehicle hi (typed_isVehicle r.type_eq)).1 ▸ r.tour_eq, r.costs_le, e⟩)
    hL hi.tourKeys (fun _ _ => rfl) hc

theorem recompute_cost {nw : Network} {s s' : Schedule} {vts : Option (List Nat)}
    (hc : CostEq nw s) (h : recomputeTransitionsFor nw s vts = .ok s') : CostEq nw s' := by
  obtain ⟨_, _, -, rfl⟩ := recomputeTransitionsFor_ok h
  exact hc

theorem deleteDummy_listInv {s s1 : Schedule} {d : Veh} (hi : ListInv s) (h : deleteDummy s d = .ok s1) : ListInv s1 := by
  obtain ⟨-, -, rfl⟩ := deleteDummy_ok h
  exact hi

theorem dummySpawn_cost {nw : Network} {s s' : Schedule} {d : Veh} {vt : Nat} {v : Veh}
    (hi : ListInv s) (hc : CostEq nw s) (h : spawnToReplaceDummy nw s d vt = .ok (s', v)) : CostEq nw s' := by
  obtain ⟨_, s1, -, -, hdel, hspawn⟩ := spawnToReplaceDummy_ok h
  have hc1 : CostEq nw s1 := by rw [(deleteDummy_ok hdel).2.2]; exact hc
  exact spawn_cost (deleteDummy_listInv hi hdel) hc1 hspawn

structure Inv (nw : Network) (s : Schedule) : Prop where
  listing : ListInv s
  dummies : DummyInv s
  cost : CostEq nw s

theorem C09_cost_step (nw : Network) (s : Schedule) (op : Spec.SOp) (r : OpResult)
    (hinv : Inv nw s) (h : applyOp nw s op = .ok r) : Inv nw r.sched := by
  obtain ⟨hi, hd, hc⟩ := hinv
  refine ⟨C10_listing_step nw s op r hi h, dk_step nw s op r hd h, ?_⟩
  exact applyOp_cases (motive := fun _ s' => CostEq nw s')
    (empty_cost nw)
    (fun _ _ _ _ => spawn_cost hi hc)
    (fun _ _ _ _ => dummySpawn_cost hi hc)
    (fun _ _ => delete_cost hi hc)
    (fun _ _ _ _ _ _ => addPath_cost hi hc)
    (fun _ _ _ _ => rmSeg_cost hi hc)
    (fun _ _ _ _ _ => fit_cost hi hd hc)
    (fun _ _ _ _ _ _ => override_cost hi hd hc)
    (fun _ _ => improve_cost hi hc)
    (fun _ => endGreedy_cost hi hc)
    (fun _ _ => recompute_cost hc)
    (fun _ => endConsistent_cost hi hc)
    (fun _ _ _ _ _ _ _ => hc)
    h

theorem C09_cost_reachable (nw : Network) (ops : List Spec.SOp) (s s' : Schedule)
    (hinv : Inv nw s) (h : runOps nw s ops = some s') : Inv nw s' :=
  runOps_induct0 (C09_cost_step nw) ops s s' hinv h

/-- **C09 / C04 (cost cache), every history**: in every schedule the model reaches from the empty
    schedule by public modifications, the cached cost is Σ tour costs + staff term, dummy tours are
    keyed by dummy ids, and the listing invariant holds -/
theorem C09_cost_from_empty (nw : Network) (ops : List Spec.SOp) (s' : Schedule)
    (hargs : ∀ op ∈ ops, ArgsOK op) (h : runOps nw (Schedule.empty nw) ops = some s') : Inv nw s' :=
  C09_cost_reachable nw ops _ s' ⟨empty_listInv nw, empty_dk nw, empty_cost nw⟩ h

end RSSched.C09C
