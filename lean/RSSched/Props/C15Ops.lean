/-
Props/C15Ops: every rotation-cycle operation of the model keeps the bookkeeping exact
(C15 at full strength, per operation and hence for every finite operation sequence).

`Consistent nw T tr` is the declarative invariant: every cycle is duplicate-free, `lookup` is
exactly the membership relation (so the cycles are pairwise disjoint), `empty` lists exactly the
empty cycles once each, every cycle's counter equals the recomputation from the tours `T`
(Σ maintenance counters + Σ cyclic depot links, self loop for one vehicle, 0 for none) and the
totals are the sums. `T` is the tour lookup the operation sees (`updated` first, then `old`).
-/
import RSSched.Props.C15
import RSSched.Lemmas.Assoc
namespace RSSched.C15
open Cyclic

abbrev TourMap := Veh → Option Tour

/-- the Rust lookup "updated tours first, then old tours" -/
def overlay (updated old : Tours) : TourMap := fun w =>
  match assocGet? updated w with
  | some t => some t
  | none => assocGet? old w

def Toured (nw : Network) (T : TourMap) (v : Veh) : Prop :=
  ∃ t s e, T v = some t ∧ t.startDepot nw = .ok s ∧ t.endDepot nw = .ok e

def mcOf (nw : Network) (T : TourMap) (v : Veh) : Int :=
  match T v with
  | some t => t.maintenanceCounter nw
  | none => 0

def linkOf (nw : Network) (T : TourMap) (a b : Veh) : Int :=
  match T a, T b with
  | some ta, some tb =>
    match ta.endDepot nw, tb.startDepot nw with
    | .ok e, .ok s => Transition.depotDist nw e s
    | _, _ => 0
  | _, _ => 0

def counterSpec (nw : Network) (T : TourMap) (vs : List Veh) : Int :=
  sumInt (vs.map (mcOf nw T)) + cyc (linkOf nw T) vs

def members (tr : Transition) : List Veh := tr.cycles.flatMap (·.vehicles)

theorem members_of_cycles {tr tr' : Transition}
    (h : tr'.cycles.map (·.vehicles) = tr.cycles.map (·.vehicles)) : members tr' = members tr := by
  unfold members
  rw [List.flatMap_def, List.flatMap_def, h]

structure Consistent (nw : Network) (T : TourMap) (tr : Transition) : Prop where
  cycNodup : ∀ (i : Nat) (c : Cycle), tr.cycles[i]? = some c → c.vehicles.Nodup
  toured : ∀ (i : Nat) (c : Cycle), tr.cycles[i]? = some c → ∀ v ∈ c.vehicles, Toured nw T v
  keys : (tr.lookup.map (·.1)).Nodup
  lookup : ∀ (v : Veh) (i : Nat), assocGet? tr.lookup v = some i ↔ ∃ c : Cycle, tr.cycles[(i : Nat)]? = some c ∧ v ∈ c.vehicles
  emptyNodup : tr.empty.Nodup
  empty : ∀ i : Nat, i ∈ tr.empty ↔ ∃ c : Cycle, tr.cycles[(i : Nat)]? = some c ∧ c.vehicles = []
  counter : ∀ (i : Nat) (c : Cycle), tr.cycles[i]? = some c → c.counter = counterSpec nw T c.vehicles
  totV : tr.totalViolation = sumViolations tr.cycles
  totC : tr.totalCounter = sumCounters tr.cycles

theorem tourOf_ok {updated old : Tours} {v : Veh} {t : Tour}
    (h : Transition.tourOf updated old v = .ok t) : overlay updated old v = some t := by
  unfold Transition.tourOf at h
  unfold overlay
  cases hu : assocGet? updated v with
  | some x => simp [hu] at h; simp [h]
  | none => simp only [hu] at h; exact unwrapO_ok h

theorem ite_unwrapO_ok {α β} {c : Prop} [Decidable c] {a b : Option α} {sa sb : String} {f : α → R β} {r : β}
    (h : (if c then unwrapO a sa >>= f else unwrapO b sb >>= f) = .ok r) :
    ∃ x, (if c then a else b) = some x ∧ f x = .ok r := by
  split at h
  · obtain ⟨x, hx, h⟩ := bind_ok h
    exact ⟨x, by rw [if_pos ‹c›]; exact unwrapO_ok hx, h⟩
  · obtain ⟨x, hx, h⟩ := bind_ok h
    exact ⟨x, by rw [if_neg ‹¬c›]; exact unwrapO_ok hx, h⟩

theorem pred_spec (pre suf : List Veh) (v : Veh) (h : suf ++ pre ≠ []) :
    (if (pre.length == 0) = true then (pre ++ v :: suf).getLast? else (pre ++ v :: suf)[pre.length - 1]?)
      = (suf ++ pre).getLast? := by
  cases pre with
  | nil =>
    cases suf with
    | nil => simp at h
    | cons b bs => simp [List.getLast?_cons_cons]
  | cons a as =>
    have hne : (a :: as) ≠ [] := by simp
    rw [getLast?_append_ne hne]
    have : ((a :: as).length == 0) = false := by simp
    simp only [this, Bool.false_eq_true, ↓reduceIte]
    rw [List.getElem?_append_left (by simp)]
    rw [List.getLast?_eq_getElem?]

theorem succ_spec (pre suf : List Veh) (v : Veh) (h : suf ++ pre ≠ []) :
    (if (pre.length == (pre ++ v :: suf).length - 1) = true then (pre ++ v :: suf).head?
      else (pre ++ v :: suf)[pre.length + 1]?) = (suf ++ pre).head? := by
  cases suf with
  | nil =>
    cases pre with
    | nil => simp at h
    | cons a as => simp
  | cons b bs =>
    have : (pre.length == (pre ++ v :: b :: bs).length - 1) = false := by
      simp only [List.length_append, List.length_cons, beq_eq_false_iff_ne, ne_eq]; omega
    simp only [this, Bool.false_eq_true, ↓reduceIte]
    rw [List.getElem?_append_right (by omega)]
    simp

/-- `end_depot_of_predecessor_and_start_depot_of_successor`, for `v` at its place in `pre ++ v :: suf` -/
theorem predEndSuccStart_ok {nw : Network} {tr : Transition} {v : Veh} {updated old : Tours} {e s ci : Nat}
    {oc : Cycle} {pre suf : List Veh} (hci : assocGet? tr.lookup v = some ci) (hoc : tr.cycles[ci]? = some oc)
    (hsplit : oc.vehicles = pre ++ v :: suf) (hidx : oc.vehicles.findIdx? (· == v) = some pre.length)
    (hps : suf ++ pre ≠ []) (h : Transition.predEndSuccStart nw tr v updated old = .ok (e, s)) :
    ∃ p q pt qt, (suf ++ pre).getLast? = some p ∧ (suf ++ pre).head? = some q ∧
      overlay updated old p = some pt ∧ overlay updated old q = some qt ∧
      pt.endDepot nw = .ok e ∧ qt.startDepot nw = .ok s := by
  unfold Transition.predEndSuccStart at h
  obtain ⟨ci', hci', h⟩ := bind_ok h
  obtain ⟨oc', hoc', h⟩ := bind_ok h
  obtain ⟨pos, hpos, h⟩ := bind_ok h
  dsimp only at h
  obtain ⟨p, hp, h⟩ := ite_unwrapO_ok h
  obtain ⟨q, hq, h⟩ := ite_unwrapO_ok h
  obtain ⟨pt, hpt, h⟩ := bind_ok h
  obtain ⟨qt, hqt, h⟩ := bind_ok h
  obtain ⟨e', he, h⟩ := bind_ok h
  obtain ⟨s', hs, h⟩ := bind_ok h
  cases h
  cases hci.symm.trans (unwrapO_ok hci')
  cases hoc.symm.trans (unwrapO_ok hoc')
  cases hidx.symm.trans (unwrapO_ok hpos)
  rw [hsplit, pred_spec pre suf v hps] at hp
  rw [hsplit, succ_spec pre suf v hps] at hq
  exact ⟨p, q, pt, qt, hp, hq, tourOf_ok hpt, tourOf_ok hqt, unwrapR_ok he, unwrapR_ok hs⟩

theorem linkOf_eq {nw : Network} {T : TourMap} {a b : Veh} {ta tb : Tour} {e s : Nat}
    (ha : T a = some ta) (hb : T b = some tb) (he : ta.endDepot nw = .ok e) (hs : tb.startDepot nw = .ok s) :
    linkOf nw T a b = Transition.depotDist nw e s := by
  simp [linkOf, ha, hb, he, hs]

theorem mcOf_eq {nw : Network} {T : TourMap} {a : Veh} {ta : Tour} (ha : T a = some ta) :
    mcOf nw T a = ta.maintenanceCounter nw := by simp [mcOf, ha]

theorem counterWithLinks_exact {nw : Network} {T : TourMap} {v p q : Veh} {t pt qt : Tour} {e s : Nat} {r : Int}
    (hv : T v = some t) (hp : T p = some pt) (hq : T q = some qt)
    (he : pt.endDepot nw = .ok e) (hs : qt.startDepot nw = .ok s)
    (h : Transition.counterWithLinks nw t e s = .ok r) :
    Toured nw T v ∧ r = mcOf nw T v + linkOf nw T p v + linkOf nw T v q := by
  unfold Transition.counterWithLinks at h
  obtain ⟨sv, hsv, h⟩ := bind_ok h
  obtain ⟨ev, hev, h⟩ := bind_ok h
  cases h
  have hsv := unwrapR_ok hsv
  have hev := unwrapR_ok hev
  exact ⟨⟨t, sv, ev, hv, hsv, hev⟩, by rw [mcOf_eq hv, linkOf_eq hp hv he hsv, linkOf_eq hv hq hev hs]⟩

theorem selfLoopCounter_exact {nw : Network} {T : TourMap} {v : Veh} {t : Tour} {r : Int}
    (hv : T v = some t) (h : Transition.selfLoopCounter nw t = .ok r) :
    Toured nw T v ∧ r = counterSpec nw T [v] := by
  unfold Transition.selfLoopCounter at h
  obtain ⟨sv, hsv, h⟩ := bind_ok h
  obtain ⟨ev, hev, h⟩ := bind_ok h
  cases h
  have hsv := unwrapR_ok hsv
  have hev := unwrapR_ok hev
  refine ⟨⟨t, sv, ev, hv, hsv, hev⟩, ?_⟩
  simp only [counterSpec, List.map_cons, List.map_nil, cyc_single, sumInt, List.foldr_cons, List.foldr_nil]
  rw [mcOf_eq hv, linkOf_eq hv hv hev hsv]
  omega

theorem sumInt_perm {l1 l2 : List Int} (h : l1.Perm l2) : sumInt l1 = sumInt l2 :=
  h.foldr_eq' (fun x _ y _ z => Int.add_left_comm y x z) 0

theorem sumInt_map_split {α} (f : α → Int) (pre suf : List α) (v : α) :
    sumInt ((pre ++ v :: suf).map f) = sumInt ((pre ++ suf).map f) + f v := by
  unfold sumInt
  simp only [List.map_append, List.map_cons, sumInt_append, List.foldr_cons]
  omega

theorem member_facts {nw : Network} {T : TourMap} {tr : Transition} (hc : Consistent nw T tr)
    {v : Veh} {ci : Nat} {oc : Cycle} (hci : assocGet? tr.lookup v = some ci) (hoc : tr.cycles[ci]? = some oc) :
    v ∈ oc.vehicles ∧ ci < tr.cycles.length ∧ ci ∉ tr.empty := by
  obtain ⟨c, h1, h2⟩ := (hc.lookup v ci).mp hci
  rw [hoc] at h1; cases h1
  refine ⟨h2, (List.getElem?_eq_some_iff.mp hoc).1, ?_⟩
  intro he
  obtain ⟨c, h1, h3⟩ := (hc.empty ci).mp he
  rw [hoc] at h1; cases h1
  rw [h3] at h2; cases h2

theorem counterSpec_congr (nw : Network) (T T' : TourMap) (vs : List Veh)
    (h : ∀ w ∈ vs, T' w = T w) : counterSpec nw T' vs = counterSpec nw T vs := by
  unfold counterSpec
  have h1 : vs.map (mcOf nw T') = vs.map (mcOf nw T) :=
    List.map_congr_left fun w hw => by unfold mcOf; rw [h w hw]
  rw [h1, cyc_congr _ (linkOf nw T) vs fun a b ha hb => by unfold linkOf; rw [h a ha, h b hb]]

theorem counterSpec_member (nw : Network) (T : TourMap) (pre suf : List Veh) (v p q : Veh)
    (hp : (suf ++ pre).getLast? = some p) (hq : (suf ++ pre).head? = some q) :
    counterSpec nw T (pre ++ v :: suf) = counterSpec nw T (pre ++ suf)
      + mcOf nw T v + linkOf nw T p v + linkOf nw T v q - linkOf nw T p q := by
  have hps : suf ++ pre ≠ [] := fun e => by rw [e] at hp; cases hp
  unfold counterSpec
  rw [sumInt_map_split, cyc_remove (linkOf nw T) pre suf v hps, hp, hq]
  simp only [connI]
  omega

theorem toured_congr {nw : Network} {T T' : TourMap} {w : Veh} (h : T' w = T w) (ht : Toured nw T w) :
    Toured nw T' w := by
  obtain ⟨t, s, e, h1, h2, h3⟩ := ht
  exact ⟨t, s, e, by rw [h, h1], h2, h3⟩

/-- the common shape of all operations: the cycle at `ci` becomes `c'` (replaced or appended), lookup
    and the empty list change for that cycle only, tours change only outside the other cycles -/
theorem consistent_at {nw : Network} {T T' : TourMap} {tr tr' : Transition} (hc : Consistent nw T tr)
    (ci : Nat) (c' : Cycle) (hget : ∀ j : Nat, tr'.cycles[j]? = if j = ci then some c' else tr.cycles[j]?)
    (hT : ∀ (i : Nat) (c : Cycle), i ≠ ci → tr.cycles[i]? = some c → ∀ w ∈ c.vehicles, T' w = T w)
    (hnd : c'.vehicles.Nodup) (htoured : ∀ w ∈ c'.vehicles, Toured nw T' w)
    (hkeys : (tr'.lookup.map (·.1)).Nodup)
    (hl1 : ∀ w, assocGet? tr'.lookup w = some ci ↔ w ∈ c'.vehicles)
    (hl2 : ∀ w (i : Nat), i ≠ ci → (assocGet? tr'.lookup w = some i ↔ assocGet? tr.lookup w = some i))
    (hen : tr'.empty.Nodup) (he1 : ci ∈ tr'.empty ↔ c'.vehicles = [])
    (he2 : ∀ i : Nat, i ≠ ci → (i ∈ tr'.empty ↔ i ∈ tr.empty))
    (hcount : c'.counter = counterSpec nw T' c'.vehicles)
    (htot : tr'.totalViolation = sumViolations tr'.cycles ∧ tr'.totalCounter = sumCounters tr'.cycles) :
    Consistent nw T' tr' := by
  have key : ∀ (i : Nat) (c : Cycle), tr'.cycles[i]? = some c →
      c.vehicles.Nodup ∧ (∀ w ∈ c.vehicles, Toured nw T' w) ∧ c.counter = counterSpec nw T' c.vehicles := by
    intro i c h
    rw [hget] at h
    split at h
    · cases h; exact ⟨hnd, htoured, hcount⟩
    · rename_i e
      exact ⟨hc.cycNodup i c h, fun w hw => toured_congr (hT i c e h w hw) (hc.toured i c h w hw),
        (hc.counter i c h).trans (counterSpec_congr nw T T' c.vehicles (hT i c e h)).symm⟩
  refine ⟨fun i c h => (key i c h).1, fun i c h => (key i c h).2.1, hkeys, ?_, hen, ?_,
    fun i c h => (key i c h).2.2, htot.1, htot.2⟩
  · intro w i
    rw [hget]
    by_cases e : i = ci
    · subst e; simp only [↓reduceIte, Option.some.injEq, exists_eq_left']; exact hl1 w
    · simp only [e, ↓reduceIte]; rw [hl2 w i e]; exact hc.lookup w i
  · intro i
    rw [hget]
    by_cases e : i = ci
    · subst e; simp only [↓reduceIte, Option.some.injEq, exists_eq_left']; exact he1
    · simp only [e, ↓reduceIte]; rw [he2 i e]; exact hc.empty i

theorem Consistent.totals_set {nw : Network} {T : TourMap} {tr : Transition} (hc : Consistent nw T tr)
    {ci : Nat} {oc : Cycle} (hoc : tr.cycles[ci]? = some oc) (c' : Cycle) :
    tr.totalViolation + posMax0 c'.counter - posMax0 oc.counter = sumViolations (tr.cycles.set ci c') ∧
    tr.totalCounter + c'.counter - oc.counter = sumCounters (tr.cycles.set ci c') := by
  obtain ⟨h1, h2⟩ := C15.totals_set c' hoc
  rw [h1, h2, hc.totV, hc.totC]
  exact ⟨rfl, rfl⟩

theorem mem_members_iff {nw : Network} {T : TourMap} {tr : Transition} (hc : Consistent nw T tr) (w : Veh) :
    w ∈ members tr ↔ ∃ i, assocGet? tr.lookup w = some i := by
  unfold members
  rw [List.mem_flatMap]
  constructor
  · rintro ⟨c, hcm, hw⟩
    obtain ⟨i, hi, hget⟩ := List.getElem_of_mem hcm
    exact ⟨i, (hc.lookup w i).mpr ⟨c, by simp [List.getElem?_eq_getElem hi, hget], hw⟩⟩
  · rintro ⟨i, hi⟩
    obtain ⟨c, h1, h2⟩ := (hc.lookup w i).mp hi
    exact ⟨c, List.mem_of_getElem? h1, h2⟩

/-- `Transition::remove_vehicle` -/
theorem remove_consistent (nw : Network) (tr tr' : Transition) (v : Veh) (updated old : Tours)
    (hc : Consistent nw (overlay updated old) tr) (hfresh : assocGet? updated v = none)
    (h : Transition.removeVehicle nw tr v updated old = .ok tr') :
    Consistent nw (overlay updated old) tr' ∧
    (∀ w, w ∈ members tr' ↔ w ∈ members tr ∧ w ≠ v) ∧ tr'.cycles.length = tr.cycles.length := by
  unfold Transition.removeVehicle at h
  obtain ⟨ci, hci, h⟩ := bind_ok h
  obtain ⟨oc, hoc, h⟩ := bind_ok h
  have hci := unwrapO_ok hci
  have hoc := unwrapO_ok hoc
  obtain ⟨hv, -, hne⟩ := member_facts hc hci hoc
  have hnd := hc.cycNodup ci oc hoc
  obtain ⟨pre, suf, hsplit, hvpre, hvsuf, hfilt, hidx⟩ := split_at_mem oc.vehicles v hnd hv
  rw [hsplit] at hnd
  have hsub : (pre ++ suf).Sublist (pre ++ v :: suf) := List.Sublist.append_left (List.sublist_cons_self v suf) pre
  suffices hs : Consistent nw (overlay updated old) tr' ∧ tr'.lookup = assocErase tr.lookup v ∧
      tr'.cycles.length = tr.cycles.length by
    refine ⟨hs.1, fun w => ?_, hs.2.2⟩
    rw [mem_members_iff hs.1, mem_members_iff hc, hs.2.1]
    simp only [assocGet?_assocErase]
    by_cases e : w = v <;> simp [e]
  -- `fin` names the continuation both branches of the `do` block end in, so that they meet again
  -- before it is unfolded
  extract_lets newVec fin at h
  have hvec : newVec = pre ++ suf := hfilt
  rw [hvec] at h
  obtain ⟨nc, emp, hcount, hen, he1, he2, hfin⟩ : ∃ nc emp,
      nc = counterSpec nw (overlay updated old) (pre ++ suf) ∧ emp.Nodup ∧ (ci ∈ emp ↔ pre ++ suf = []) ∧
      (∀ i : Nat, i ≠ ci → (i ∈ emp ↔ i ∈ tr.empty)) ∧ fin (nc, emp) = .ok tr' := by
    split at h
    · rename_i hemp
      have hps : pre ++ suf = [] := List.isEmpty_iff.mp hemp
      exact ⟨_, _, by rw [hps]; rfl,
        (List.perm_append_singleton ci _).nodup_iff.mpr (List.nodup_cons.mpr ⟨hne, hc.emptyNodup⟩),
        by simp [hps], fun i hi => by simp [hi], h⟩
    · rename_i hemp
      obtain ⟨⟨e, s⟩, hpe, h⟩ := bind_ok h
      obtain ⟨ot, hot, h⟩ := bind_ok h
      obtain ⟨rem, hrem, h⟩ := bind_ok h
      have hps : suf ++ pre ≠ [] := by
        intro h0; apply hemp
        simp only [List.append_eq_nil_iff] at h0; simp [h0.1, h0.2]
      have hTv : overlay updated old v = some ot := by simp [overlay, hfresh, unwrapO_ok hot]
      obtain ⟨p, q, pt, qt, hp, hq, hTp, hTq, he, hs⟩ := predEndSuccStart_ok hci hoc hsplit hidx hps hpe
      obtain ⟨_, hrem⟩ := counterWithLinks_exact hTv hTp hTq he hs hrem
      refine ⟨_, _, ?_, hc.emptyNodup, ?_, fun _ _ => Iff.rfl, h⟩
      · rw [hc.counter ci oc hoc, hsplit, counterSpec_member nw _ pre suf v p q hp hq, hrem,
          linkOf_eq hTp hTq he hs]
        omega
      · simp only [hne, false_iff]; intro h0; apply hps
        simp only [List.append_eq_nil_iff] at h0 ⊢; exact ⟨h0.2, h0.1⟩
  cases hfin
  rw [hvec]
  have hget' := assocGet?_assocErase tr.lookup v
  refine ⟨consistent_at hc ci ⟨pre ++ suf, nc⟩ (getElem?_set_of_some hoc _)
    (fun _ _ _ _ _ _ => rfl) (hnd.sublist hsub)
    (fun w hw => hc.toured ci oc hoc w (by rw [hsplit]; exact hsub.subset hw))
    (assocErase_keys_nodup tr.lookup v hc.keys) ?_ ?_ hen he1 he2 hcount
    (hc.totals_set hoc ⟨_, nc⟩), rfl, by simp⟩
  · intro w
    show assocGet? (assocErase tr.lookup v) w = some ci ↔ w ∈ pre ++ suf
    rw [hget']
    by_cases e : w = v
    · subst e; simp [hvpre, hvsuf]
    · simp only [e, ↓reduceIte]
      rw [hc.lookup w ci, hoc]
      simp only [Option.some.injEq, exists_eq_left', hsplit, List.mem_append, List.mem_cons, e, false_or]
  · intro w i hi
    show assocGet? (assocErase tr.lookup v) w = some i ↔ _
    rw [hget']
    by_cases e : w = v
    · subst e; simp only [↓reduceIte, reduceCtorEq, false_iff, hci, Option.some.injEq]; exact fun h => hi h.symm
    · simp [e]

theorem lookupInsert_keys (l : List (Veh × Nat)) (v : Veh) (c : Nat) (hnd : (l.map (·.1)).Nodup) :
    ((Transition.lookupInsert l v c).map (·.1)).Nodup := by
  unfold Transition.lookupInsert Transition.sortLookup
  exact (((List.mergeSort_perm _ _).map _).nodup_iff).mpr (assocSet_keys_nodup l v c hnd)

theorem lookupInsert_get (l : List (Veh × Nat)) (v : Veh) (c : Nat) (hnd : (l.map (·.1)).Nodup) (w : Veh) :
    assocGet? (Transition.lookupInsert l v c) w = if w = v then some c else assocGet? l w := by
  have hk := lookupInsert_keys l v c hnd
  unfold Transition.lookupInsert Transition.sortLookup at hk ⊢
  rw [assocGet?_perm (List.mergeSort_perm _ _) hk w, assocGet?_assocSet]

theorem lookupInsert_iff {nw : Network} {T : TourMap} {tr : Transition} (hc : Consistent nw T tr) {v : Veh}
    (hnew : assocGet? tr.lookup v = none) (k : Nat) (w : Veh) (i : Nat) :
    assocGet? (Transition.lookupInsert tr.lookup v k) w = some i ↔
      (w = v ∧ i = k) ∨ assocGet? tr.lookup w = some i := by
  rw [lookupInsert_get tr.lookup v k hc.keys]
  by_cases e : w = v
  · subst e; simp [hnew, eq_comm]
  · simp [e]

theorem members_lookupInsert {nw : Network} {T T' : TourMap} {tr tr' : Transition} (hc : Consistent nw T tr)
    (hc' : Consistent nw T' tr') {v : Veh} (hnew : assocGet? tr.lookup v = none) {k : Nat}
    (hl : tr'.lookup = Transition.lookupInsert tr.lookup v k) (w : Veh) :
    w ∈ members tr' ↔ w ∈ members tr ∨ w = v := by
  rw [mem_members_iff hc', mem_members_iff hc, hl]
  simp only [lookupInsert_iff hc hnew, exists_or, exists_and_left, exists_eq, and_true, or_comm]

/-- `Transition::add_vehicle_at_the_end` (repaired, finding F7) -/
theorem addEnd_consistent (nw : Network) (tr tr' : Transition) (v : Veh) (ci : Nat) (updated old : Tours)
    (hc : Consistent nw (overlay updated old) tr) (hnew : assocGet? tr.lookup v = none)
    (h : Transition.addVehicleAtTheEnd nw false tr v ci updated old = .ok tr') :
    Consistent nw (overlay updated old) tr' ∧
    (∀ w, w ∈ members tr' ↔ w ∈ members tr ∨ w = v) ∧ tr'.cycles.length = tr.cycles.length := by
  unfold Transition.addVehicleAtTheEnd at h
  obtain ⟨oc, hoc, h⟩ := bind_ok h
  obtain ⟨tv, htv, h⟩ := bind_ok h
  have hoc := unwrapO_ok hoc
  have hTv := tourOf_ok htv
  have hvnot : v ∉ oc.vehicles := by
    intro hv
    have := (hc.lookup v ci).mpr ⟨oc, hoc, hv⟩
    rw [hnew] at this; cases this
  suffices hs : Consistent nw (overlay updated old) tr' ∧ tr'.lookup = Transition.lookupInsert tr.lookup v ci ∧
      tr'.cycles.length = tr.cycles.length from ⟨hs.1, members_lookupInsert hc hs.1 hnew hs.2.1, hs.2.2⟩
  -- `fin`: the common ending of the two branches, as in `remove_consistent`
  extract_lets fin at h
  obtain ⟨nc, emp, htv, hcount, hen, hcie, he2, hfin⟩ : ∃ nc emp, Toured nw (overlay updated old) v ∧
      nc = counterSpec nw (overlay updated old) (oc.vehicles ++ [v]) ∧ emp.Nodup ∧ ci ∉ emp ∧
      (∀ i : Nat, i ≠ ci → (i ∈ emp ↔ i ∈ tr.empty)) ∧ fin (nc, emp) = .ok tr' := by
    split at h
    · rename_i hlen
      obtain ⟨c, hself, h⟩ := bind_ok h
      have hov : oc.vehicles = [] := by
        simp only [List.length_append, List.length_cons, List.length_nil, beq_iff_eq] at hlen
        exact List.eq_nil_of_length_eq_zero (by omega)
      obtain ⟨ht, hcnt⟩ := selfLoopCounter_exact hTv hself
      exact ⟨_, _, ht, by rw [hov]; exact hcnt, hc.emptyNodup.sublist List.filter_sublist, by simp,
        fun i hi => by simp [hi], h⟩
    · rename_i hlen
      obtain ⟨p, hp, h⟩ := bind_ok h
      obtain ⟨pt, hpt, h⟩ := bind_ok h
      obtain ⟨e, he, h⟩ := bind_ok h
      obtain ⟨q, hq, h⟩ := bind_ok h
      obtain ⟨qt, hqt, h⟩ := bind_ok h
      obtain ⟨s, hs, h⟩ := bind_ok h
      obtain ⟨add, hadd, h⟩ := bind_ok h
      have hne : oc.vehicles ≠ [] := fun h0 => hlen (by simp [h0])
      have hlast : oc.vehicles.getLast? = some p := by
        rw [← unwrapO_ok hp, List.getLast?_eq_getElem?]
        have : (oc.vehicles ++ [v]).length - 2 = oc.vehicles.length - 1 := by simp
        rw [this, List.getElem?_append_left]
        have := List.length_pos_iff.mpr hne; omega
      have hhead : oc.vehicles.head? = some q := by rw [← unwrapO_ok hq]; exact (head?_append_ne hne).symm
      have hTp := tourOf_ok hpt
      have hTq := tourOf_ok hqt
      have he := unwrapR_ok he
      have hs := unwrapR_ok hs
      obtain ⟨ht, hadd⟩ := counterWithLinks_exact hTv hTp hTq he hs hadd
      refine ⟨_, _, ht, ?_, hc.emptyNodup, ?_, fun _ _ => Iff.rfl, h⟩
      · rw [counterSpec_member nw _ oc.vehicles [] v p q hlast hhead, List.append_nil, ← hc.counter ci oc hoc,
          hadd, linkOf_eq hTp hTq he hs]
        omega
      · intro hemp
        obtain ⟨c, h1, h2⟩ := (hc.empty ci).mp hemp
        rw [hoc] at h1; cases h1; exact hne h2
  cases hfin
  exact ⟨consistent_at hc ci ⟨oc.vehicles ++ [v], nc⟩
    (getElem?_set_of_some hoc _) (fun _ _ _ _ _ _ => rfl)
    ((List.perm_append_singleton v _).nodup_iff.mpr (List.nodup_cons.mpr ⟨hvnot, hc.cycNodup ci oc hoc⟩))
    (fun w hw => (List.mem_append.mp hw).elim (hc.toured ci oc hoc w)
      (fun h => by rw [List.mem_singleton.mp h]; exact htv))
    (lookupInsert_keys tr.lookup v ci hc.keys)
    (fun w => by rw [lookupInsert_iff hc hnew, hc.lookup w ci, hoc]; simp [or_comm])
    (fun w i hi => by rw [lookupInsert_iff hc hnew]; simp [hi])
    hen (by simp [hcie]) he2 hcount (hc.totals_set hoc ⟨_, nc⟩), rfl, by simp⟩

theorem not_member_lookup {nw : Network} {T : TourMap} {tr : Transition} (hc : Consistent nw T tr) {v : Veh}
    (h : v ∉ members tr) : assocGet? tr.lookup v = none := by
  cases hg : assocGet? tr.lookup v with
  | none => rfl
  | some i => exact absurd ((mem_members_iff hc v).mpr ⟨i, hg⟩) h

/-- `Transition::move_vehicle`, the move of the transition local search -/
theorem move_consistent (nw : Network) (tr tr' : Transition) (v : Veh) (ci : Nat) (tours : Tours)
    (hc : Consistent nw (overlay [] tours) tr)
    (h : Transition.moveVehicle nw false tr v ci tours = .ok tr') :
    Consistent nw (overlay [] tours) tr' ∧ (∀ w, w ∈ members tr' ↔ w ∈ members tr) ∧
    tr'.cycles.length = tr.cycles.length := by
  unfold Transition.moveVehicle at h
  obtain ⟨t1, h1, h⟩ := bind_ok h
  have hvmem : v ∈ members tr := by
    unfold Transition.removeVehicle at h1
    obtain ⟨ci0, hci0, _⟩ := bind_ok h1
    exact (mem_members_iff hc v).mpr ⟨ci0, unwrapO_ok hci0⟩
  obtain ⟨hc1, hm1, hlen1⟩ := remove_consistent nw tr t1 v [] tours hc (by simp [assocGet?_nil]) h1
  have hv1 : v ∉ members t1 := fun hm => ((hm1 v).mp hm).2 rfl
  obtain ⟨hc2, hm2, hlen2⟩ := addEnd_consistent nw t1 tr' v ci [] tours hc1 (not_member_lookup hc1 hv1) h
  refine ⟨hc2, ?_, by omega⟩
  intro w
  rw [hm2 w, hm1 w]
  by_cases e : w = v
  · subst e; simp [hvmem]
  · simp [e]

theorem overlay_cons (updated old : Tours) (v : Veh) (t : Tour) (w : Veh) :
    overlay ((v, t) :: updated) old w = if v = w then some t else overlay updated old w := by
  unfold overlay
  rw [assocGet?_cons]
  by_cases e : v = w <;> simp [e]

theorem overlay_cons_self (updated old : Tours) (v : Veh) (t : Tour) :
    overlay ((v, t) :: updated) old v = some t := by simp [overlay_cons]

theorem overlay_cons_ne (updated old : Tours) {v w : Veh} (t : Tour) (h : w ≠ v) :
    overlay ((v, t) :: updated) old w = overlay updated old w := by
  rw [overlay_cons, if_neg fun e => h e.symm]

/-- `Transition::update_vehicle`: exact with respect to the tours after the update (the vehicle's own
    old tour is read from `old`, its neighbours through the overlay) -/
theorem update_consistent (nw : Network) (tr tr' : Transition) (v : Veh) (newTour : Tour) (updated old : Tours)
    (hc : Consistent nw (overlay updated old) tr) (hfresh : assocGet? updated v = none)
    (h : Transition.updateVehicle nw tr v newTour updated old = .ok tr') :
    Consistent nw (overlay ((v, newTour) :: updated) old) tr' ∧
    tr'.cycles.map (·.vehicles) = tr.cycles.map (·.vehicles) ∧ tr'.lookup = tr.lookup ∧ tr'.empty = tr.empty := by
  unfold Transition.updateVehicle at h
  obtain ⟨ot, hot, h⟩ := bind_ok h
  obtain ⟨ci, hci, h⟩ := bind_ok h
  obtain ⟨oc, hoc, h⟩ := bind_ok h
  have hci := unwrapO_ok hci
  have hoc := unwrapO_ok hoc
  obtain ⟨hv, hlt, hne⟩ := member_facts hc hci hoc
  obtain ⟨pre, suf, hsplit, hvpre, hvsuf, hfilt, hidx⟩ := split_at_mem oc.vehicles v (hc.cycNodup ci oc hoc) hv
  have hTv : overlay updated old v = some ot := by simp [overlay, hfresh, unwrapO_ok hot]
  have hT'v := overlay_cons_self updated old v newTour
  have hT'w := fun w => overlay_cons_ne updated old (v := v) (w := w) newTour
  -- `fin`: the common ending of the two branches, as in `remove_consistent`
  extract_lets fin at h
  obtain ⟨nc, htv, hcount, hfin⟩ : ∃ nc, Toured nw (overlay ((v, newTour) :: updated) old) v ∧
      nc = counterSpec nw (overlay ((v, newTour) :: updated) old) oc.vehicles ∧ fin nc = .ok tr' := by
    split at h
    · rename_i hlen
      obtain ⟨nc, hself, h⟩ := bind_ok h
      have hps : pre = [] ∧ suf = [] := by
        simp only [hsplit, List.length_append, List.length_cons, beq_iff_eq] at hlen
        exact ⟨List.eq_nil_of_length_eq_zero (by omega), List.eq_nil_of_length_eq_zero (by omega)⟩
      obtain ⟨ht, hcnt⟩ := selfLoopCounter_exact hT'v hself
      exact ⟨nc, ht, by rw [hsplit, hps.1, hps.2]; exact hcnt, h⟩
    · rename_i hlen
      obtain ⟨⟨e, s⟩, hpe, h⟩ := bind_ok h
      obtain ⟨rem, hrem, h⟩ := bind_ok h
      obtain ⟨add, hadd, h⟩ := bind_ok h
      have hps : suf ++ pre ≠ [] := by
        intro h0; apply hlen
        simp only [List.append_eq_nil_iff] at h0; simp [hsplit, h0.1, h0.2]
      obtain ⟨p, q, pt, qt, hp, hq, hTp, hTq, he, hs⟩ := predEndSuccStart_ok hci hoc hsplit hidx hps hpe
      have hsame : ∀ w ∈ suf ++ pre, overlay ((v, newTour) :: updated) old w = overlay updated old w := by
        intro w hw; apply hT'w; rintro rfl
        simp [hvpre, hvsuf] at hw
      have hT'p := (hsame p (List.mem_of_getLast? hp)).trans hTp
      have hT'q := (hsame q (List.mem_of_head? hq)).trans hTq
      obtain ⟨_, hrem⟩ := counterWithLinks_exact hTv hTp hTq he hs hrem
      obtain ⟨ht, hadd⟩ := counterWithLinks_exact hT'v hT'p hT'q he hs hadd
      refine ⟨_, ht, ?_, h⟩
      rw [hc.counter ci oc hoc, hsplit, counterSpec_member nw (overlay updated old) pre suf v p q hp hq,
        counterSpec_member nw (overlay ((v, newTour) :: updated) old) pre suf v p q hp hq,
        counterSpec_congr nw (overlay updated old) _ (pre ++ suf) (fun w hw => hsame w (by simpa [or_comm] using hw)),
        hrem, hadd, linkOf_eq hTp hTq he hs, linkOf_eq hT'p hT'q he hs]
      omega
  cases hfin
  refine ⟨consistent_at hc ci ⟨oc.vehicles, nc⟩ (getElem?_set_of_some hoc _) ?_ (hc.cycNodup ci oc hoc) ?_
    hc.keys (by intro w; rw [hc.lookup w ci, hoc]; simp) (fun _ _ _ => Iff.rfl) hc.emptyNodup
    (by rw [hc.empty ci, hoc]; simp) (fun _ _ => Iff.rfl) hcount
    (hc.totals_set hoc ⟨_, nc⟩), ?_, rfl, rfl⟩
  · intro i c hi hci' w hw
    apply hT'w; rintro rfl
    have := (hc.lookup w i).mpr ⟨c, hci', hw⟩
    rw [hci] at this; cases this; exact hi rfl
  · intro w hw
    by_cases e : w = v
    · subst e; exact htv
    · exact toured_congr (hT'w w e) (hc.toured ci oc hoc w hw)
  · have hold : oc.vehicles = (tr.cycles.map (·.vehicles))[ci]'(by simpa using hlt) := by
      rw [List.getElem_map, (List.getElem?_eq_some_iff.mp hoc).2]
    rw [List.map_set, hold, List.set_getElem_self]

/-- `Transition::add_vehicle_to_own_cycle`: the one-vehicle cycle is appended, or put into the most
    recently emptied cycle -/
theorem addOwn_consistent (nw : Network) (tr tr' : Transition) (v : Veh) (newTour : Tour) (updated old : Tours)
    (hc : Consistent nw (overlay updated old) tr) (hnew : assocGet? tr.lookup v = none)
    (h : Transition.addVehicleToOwnCycle nw tr v newTour = .ok tr') :
    Consistent nw (overlay ((v, newTour) :: updated) old) tr' ∧
    (∀ w, w ∈ members tr' ↔ w ∈ members tr ∨ w = v) := by
  unfold Transition.addVehicleToOwnCycle at h
  obtain ⟨c, hself, h⟩ := bind_ok h
  dsimp only at h
  obtain ⟨htv, hcount⟩ := selfLoopCounter_exact (overlay_cons_self updated old v newTour) hself
  obtain ⟨k, hget, hl, hen, hke, he2, hk, htot⟩ : ∃ k : Nat,
      (∀ j : Nat, tr'.cycles[j]? = if j = k then some ⟨[v], c⟩ else tr.cycles[j]?) ∧
      tr'.lookup = Transition.lookupInsert tr.lookup v k ∧ tr'.empty.Nodup ∧ k ∉ tr'.empty ∧
      (∀ i : Nat, i ≠ k → (i ∈ tr'.empty ↔ i ∈ tr.empty)) ∧
      (∀ oc : Cycle, tr.cycles[k]? = some oc → oc.vehicles = []) ∧
      tr'.totalViolation = sumViolations tr'.cycles ∧ tr'.totalCounter = sumCounters tr'.cycles := by
    split at h
    · cases h
      have hnone : tr.cycles[tr.cycles.length]? = none := List.getElem?_eq_none (Nat.le_refl _)
      refine ⟨tr.cycles.length, getElem?_append_singleton _ _, rfl, hc.emptyNodup, ?_, fun _ _ => Iff.rfl, ?_, ?_, ?_⟩
      · intro hm
        obtain ⟨oc, hoc, _⟩ := (hc.empty _).mp hm
        rw [hnone] at hoc; cases hoc
      · intro oc hoc; rw [hnone] at hoc; cases hoc
      · simp only [sumViolations]; rw [sumInt_map_split, List.append_nil, hc.totV]; rfl
      · simp only [sumCounters]; rw [sumInt_map_split, List.append_nil, hc.totC]; rfl
    · rename_i ei hlast
      split at h
      · cases h
        obtain ⟨oc, hoc, hov⟩ := (hc.empty ei).mp (List.mem_of_getLast? hlast)
        have hoc0 : oc.counter = 0 := by rw [hc.counter ei oc hoc, hov]; rfl
        obtain ⟨ys, hys⟩ := List.getLast?_eq_some_iff.mp hlast
        have hnd := hc.emptyNodup
        rw [hys, List.nodup_append] at hnd
        have ht := hc.totals_set hoc ⟨[v], c⟩
        rw [hoc0] at ht
        refine ⟨ei, getElem?_set_of_some hoc _, rfl, ?_, ?_, ?_, ?_, ?_, ?_⟩
        · rw [hys, List.dropLast_concat]; exact hnd.1
        · rw [hys, List.dropLast_concat]; exact fun hm => hnd.2.2 ei hm ei (by simp) rfl
        · intro i hi; rw [hys, List.dropLast_concat]; simp [hi]
        · intro oc' hoc'; rw [hoc] at hoc'; cases hoc'; exact hov
        · simpa [posMax0] using ht.1
        · simpa using ht.2
      · cases h
  have hkfree : ∀ w, assocGet? tr.lookup w ≠ some k := by
    intro w hw
    obtain ⟨oc, hoc, hwm⟩ := (hc.lookup w k).mp hw
    rw [hk oc hoc] at hwm; cases hwm
  have hcons := consistent_at hc k ⟨[v], c⟩ hget
    (by intro i oc _ hoc w hw
        apply overlay_cons_ne; rintro rfl
        have := (hc.lookup w i).mpr ⟨oc, hoc, hw⟩
        rw [hnew] at this; cases this)
    (List.nodup_cons.mpr ⟨List.not_mem_nil, List.nodup_nil⟩) (fun w hw => by rw [List.mem_singleton.mp hw]; exact htv)
    (by rw [hl]; exact lookupInsert_keys tr.lookup v k hc.keys)
    (fun w => by rw [hl, lookupInsert_iff hc hnew]; simp [hkfree w])
    (fun w i hi => by rw [hl, lookupInsert_iff hc hnew]; simp [hi])
    hen (by simp [hke]) he2 hcount htot
  exact ⟨hcons, members_lookupInsert hc hcons hnew hl⟩

/-- `Transition::replace_cycle` -/
theorem replace_consistent (nw : Network) (T : TourMap) (tr tr' : Transition) (ci : Nat) (oc c' : Cycle)
    (hc : Consistent nw T tr) (hoc : tr.cycles[ci]? = some oc) (hperm : c'.vehicles.Perm oc.vehicles)
    (hcount : c'.counter = counterSpec nw T c'.vehicles)
    (h : Transition.replaceCycle tr ci c' = .ok tr') :
    Consistent nw T tr' ∧ (∀ w, w ∈ members tr' ↔ w ∈ members tr) ∧ tr'.cycles.length = tr.cycles.length := by
  obtain ⟨oc2, hoc2, rfl⟩ := replaceCycle_ok h
  cases hoc.symm.trans hoc2
  suffices hs : Consistent nw T _ from ⟨hs, fun w => by rw [mem_members_iff hs, mem_members_iff hc], by simp⟩
  exact consistent_at hc ci c' (getElem?_set_of_some hoc _)
    (fun _ _ _ _ _ _ => rfl) (hperm.nodup_iff.mpr (hc.cycNodup ci oc hoc))
    (fun w hw => hc.toured ci oc hoc w (hperm.mem_iff.mp hw)) hc.keys
    (by intro w; rw [hc.lookup w ci, hoc]; simp [hperm.mem_iff])
    (fun _ _ _ => Iff.rfl) hc.emptyNodup
    (by rw [hc.empty ci, hoc]
        simp only [Option.some.injEq, exists_eq_left']
        exact ⟨fun h0 => (h0 ▸ hperm).eq_nil, fun h0 => (h0 ▸ hperm.symm).eq_nil⟩)
    (fun _ _ => Iff.rfl) hcount (hc.totals_set hoc c')

/-- one depot read of `three_opt` -/
theorem depotAt_ok {α} {vs : List Veh} {tours : Tours} {p : Nat} {d : Tour → R Nat} {s1 s2 s3 : String}
    {k : Nat → R α} {r : α}
    (h : ((do let v ← unwrapO vs[p]? s1
              unwrapO (assocGet? tours v) s2 : R Tour) >>= fun t => unwrapR (d t) s3 >>= k) = .ok r) :
    ∃ v t e, vs[p]? = some v ∧ overlay [] tours v = some t ∧ d t = .ok e ∧ k e = .ok r := by
  obtain ⟨t, ht, h⟩ := bind_ok h
  obtain ⟨v, hv, ht⟩ := bind_ok ht
  obtain ⟨e, he, h⟩ := bind_ok h
  exact ⟨v, t, e, unwrapO_ok hv, by simp [overlay, assocGet?_nil, unwrapO_ok ht], unwrapR_ok he, h⟩

/-- `TransitionCycle::three_opt`: the incrementally computed counter equals the recomputation -/
theorem threeOpt_exact (nw : Network) (c c' : Cycle) (i j k : Nat) (tours : Tours)
    (hcount : c.counter = counterSpec nw (overlay [] tours) c.vehicles) (h1 : i < j) (h2 : j < k)
    (h : Transition.threeOpt nw c i j k tours = .ok c') :
    c'.vehicles = Transition.threeOptOrder c.vehicles i j k ∧
    c'.counter = counterSpec nw (overlay [] tours) c'.vehicles := by
  obtain ⟨counter, hcnt, h3, rfl⟩ := threeOpt_ok h
  refine ⟨rfl, ?_⟩
  unfold Transition.threeOptCounter at hcnt
  dsimp only at hcnt
  split at hcnt
  · cases hcnt
  · obtain ⟨vi, ti, ei, hvi, hTi, hei, hcnt⟩ := depotAt_ok hcnt
    obtain ⟨vi1, ti1, si1, hvi1, hTi1, hsi1, hcnt⟩ := depotAt_ok hcnt
    obtain ⟨vj, tj, ej, hvj, hTj, hej, hcnt⟩ := depotAt_ok hcnt
    obtain ⟨vj1, tj1, sj1, hvj1, hTj1, hsj1, hcnt⟩ := depotAt_ok hcnt
    obtain ⟨vk, tk, ek, hvk, hTk, hek, hcnt⟩ := depotAt_ok hcnt
    obtain ⟨vk1, tk1, sk1, hvk1, hTk1, hsk1, hcnt⟩ := depotAt_ok hcnt
    cases hcnt
    rw [Nat.mod_eq_of_lt (by omega : i + 1 < c.vehicles.length)] at hvi1
    rw [Nat.mod_eq_of_lt (by omega : j + 1 < c.vehicles.length)] at hvj1
    show _ = counterSpec nw _ (Transition.threeOptOrder c.vehicles i j k)
    unfold counterSpec Transition.threeOptOrder
    rw [sumInt_perm ((C15_threeOpt_perm c.vehicles i j k h1 h2 h3).map _), cyc_threeOpt _ _ i j k h1 h2 h3, hvi, hvi1, hvj, hvj1, hvk, hvk1]
    simp only [connI]
    rw [linkOf_eq hTi hTi1 hei hsi1, linkOf_eq hTj hTj1 hej hsj1, linkOf_eq hTk hTk1 hek hsk1,
      linkOf_eq hTi hTj1 hei hsj1, linkOf_eq hTk hTi1 hek hsi1, linkOf_eq hTj hTk1 hej hsk1, hcount]
    unfold counterSpec
    omega

end RSSched.C15
