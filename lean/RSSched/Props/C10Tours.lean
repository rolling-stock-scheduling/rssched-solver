/-
Props/C10Tours: the tour clause of C10 / C01 at schedule level: every real vehicle's tour is valid
(`TourOK`) in every schedule reachable by public modifications.

Dummy tours are not chains: `Tour::new_dummy` keeps only the service trips of a path (finding F18:
after `spawn [a, m, b]` and `delete` the dummy tour is `[a, b]`, and `b` need not be reachable from
`a`). So `override_reassign` and the loop of `fit_reassign` in /repo hand a piece of a dummy tour to a
real vehicle only if `Path::new` accepts it (commit 4028c80), and so does the model
(`OverrideRun.chain`, the flag `chk` of `fitLoop`). `override_toursP` and `fitLoop_recvP` rest on that
check; the clause needs no hypothesis on the provider of a reassignment.
-/
import RSSched.Props.C10Tour
import RSSched.Props.C09Costs
namespace RSSched.C10S
open Schedule Tour Spec C02 C10T C10L C09C

def ToursOK (nw : Network) (T : Tours) : Prop := ∀ v t, assocGet? T v = some t → TourOK nw t

theorem pathTrusted_act {nw : Network} {l p : List Nat} (h : pathTrusted nw l = some p) : hasNonDepot nw p = true := by
  rw [C12.pathTrusted_eq] at h
  split at h
  · rename_i hn
    cases h
    exact hn
  · cases h

theorem removed_facts {nw : Network} {t : Tour} {a b : Nat} {ot : Option Tour} {path : List Nat}
    (h : Tour.remove nw t a b = .ok (ot, path)) :
    hasNonDepot nw path = true ∧ (chainB nw t.nodes = true → chainB nw path = true) := by
  obtain ⟨s, e, removed, _, _, _, _, _, -, -, -, -, hrem, hp, -⟩ := Tour.remove_ok h
  obtain ⟨-, -, rfl⟩ := C09.slice_inv hrem
  refine ⟨pathTrusted_act hp, fun hc => ?_⟩
  rw [pathTrusted_some hp]
  exact C01.chainB_take nw _ _ (C01.chainB_drop nw _ _ hc)

theorem removed_pathOK {nw : Network} {t : Tour} {a b : Nat} {ot : Option Tour} {path : List Nat}
    (ht : TourOK nw t) (h : Tour.remove nw t a b = .ok (ot, path)) : PathOK nw path :=
  ⟨(removed_facts h).2 ht.chain, (removed_facts h).1⟩

theorem pathNew_pathOK {nw : Network} {nodes p : List Nat} (h : pathNew nw nodes = .ok (some p)) : PathOK nw p := by
  unfold pathNew at h
  split at h
  · cases h
  · rename_i hany
    have hp : pathTrusted nw nodes = some p := Except.ok.inj h
    refine ⟨?_, pathTrusted_act hp⟩
    rw [pathTrusted_some hp]
    unfold chainB
    rw [List.all_eq_true]
    intro x hx
    cases hc : nw.canReach x.1 x.2
    · exact absurd (List.any_eq_true.mpr ⟨x, hx, by simp [hc]⟩) hany
    · rfl

/-- the hypothesis negates the test by which the loop of `fit_path_into_tour` skips a piece (check on) -/
theorem chainB_of_check {nw : Network} {l : List Nat} (h : ¬(true && !isChain nw l) = true) : chainB nw l = true := by
  cases hc : isChain nw l
  · simp [hc] at h
  · exact hc

theorem tourOf_cases {s : Schedule} {v : Veh} {t : Tour} (h : s.tourOf? v = some t) :
    assocGet? s.tours v = some t ∨ s.isDummy v = true := by
  unfold Schedule.tourOf? at h
  split at h
  · left; rename_i t' ht; rw [ht, ← h]
  · right; unfold Schedule.isDummy; rw [h]; rfl

theorem tourOf_of_hasTour {s : Schedule} {v : Veh} {t : Tour} (h : s.tourOf? v = some t)
    (hs : (assocGet? s.tours v).isSome = true) : assocGet? s.tours v = some t := by
  obtain ⟨t0, ht0⟩ := Option.isSome_iff_exists.mp hs
  unfold Schedule.tourOf? at h
  rw [ht0] at h ⊢
  exact h

theorem isVehicle_of_tour {s : Schedule} (hi : ListInv s) {r : Veh} {t : Tour} (h : assocGet? s.tours r = some t) :
    s.isVehicle r = true := by
  have hs : (assocGet? s.vehicles r).isSome = (assocGet? s.tours r).isSome := hi.same r
  unfold Schedule.isVehicle; rw [hs, h]; rfl

theorem recv_cases {s : Schedule} (hi : ListInv s) {r : Veh} {rt : Tour}
    (hrt : s.tourOf? r = some rt) (hr : s.isDummy r = false) :
    assocGet? s.tours r = some rt ∧ s.isVehicle r = true := by
  rcases tourOf_cases hrt with h1 | h1
  · exact ⟨h1, isVehicle_of_tour hi h1⟩
  · rw [hr] at h1; cases h1

/-- The schedule touches the tours of real vehicles only through `Tour::new`, `insert_path`, `remove`
    and the two depot replacements, so a predicate on tours that these five keep holds of every real
    vehicle's tour after every public modification. The paths handed over must be valid, hence `ok`. -/
structure TourPred (nw : Network) (P : Tour → Prop) : Prop where
  ok : ∀ {t}, P t → TourOK nw t
  new : ∀ {nodes t}, Tour.new nw nodes = .ok t → P t
  insert : ∀ {t t' path rm}, P t → PathOK nw path → insertPath nw true t path = .ok (t', rm) → P t'
  remove : ∀ {t t' a b path}, P t → Tour.remove nw t a b = .ok (some t', path) → P t'
  replaceStart : ∀ {t t' d}, P t → t.replaceStartDepot nw d = .ok t' → P t'
  replaceEnd : ∀ {t t' d}, P t → t.replaceEndDepot nw d = .ok t' → P t'

theorem tourOK_pred {nw : Network} (hd : C17.DepotTimes nw) (hw : NodesWF' nw) : TourPred nw (TourOK nw) where
  ok := id
  new := new_tourOK nw _ _
  insert := insert_tourOK nw hd hw _ _ _ _
  remove := remove_tourOK nw _ _ _ _ _
  replaceStart := replaceStartDepot_tourOK nw _ _ _
  replaceEnd := replaceEndDepot_tourOK nw _ _ _

/-- `ToursOK nw` is `ToursP (TourOK nw)` -/
def ToursP (P : Tour → Prop) (T : Tours) : Prop := ∀ v t, assocGet? T v = some t → P t

section
variable {nw : Network} {P : Tour → Prop}

theorem toursP_empty (nw : Network) : ToursP P (Schedule.empty nw).tours := by
  intro v t hv
  simp [Schedule.empty, assocGet?_nil] at hv

theorem tourOf_P {s : Schedule} {v : Veh} {t : Tour} (ho : ToursP P s.tours)
    (h : s.tourOf? v = some t) (hnd : s.isDummy v = false) : P t := by
  rcases tourOf_cases h with h1 | h1
  · exact ho v t h1
  · rw [hnd] at h1; cases h1

theorem vehTour_P {s : Schedule} {v : Veh} {t : Tour} (hi : ListInv s) (ho : ToursP P s.tours)
    (hv : s.isVehicle v = true) (h : s.tourOf? v = some t) : P t := by
  rw [(tourOf_vehicle hi hv).1] at h
  exact ho v t h

theorem utc_toursP {s : Schedule} {tours dummyTours : Tours} {costs : Nat} {v : Veh} {t : Tour}
    {r : Tours × Tours × Nat} (ho : ToursP P tours) (ht : s.isDummy v = false → P t)
    (h : updateTourAndCosts s tours dummyTours costs v t = .ok r) : ToursP P r.1 := by
  rcases updateTourAndCosts_ok h with ⟨-, rfl⟩ | ⟨hnd, _, -, -, rfl⟩
  · exact ho
  · exact forall_assocSet ho (ht hnd)

theorem updateTours_toursP {s : Schedule} {w w' : Work} {p : Veh} {newProv : Option Tour}
    {receiver : Veh} {newRecv : Tour} {moved : List Nat} (ho : ToursP P w.tours)
    (hp : ∀ t, newProv = some t → s.isDummy p = false → P t)
    (hr : s.isDummy receiver = false → P newRecv)
    (h : updateTours nw s w (some p) newProv receiver newRecv moved = .ok w') : ToursP P w'.tours := by
  obtain ⟨w0, _, _, _, _, _, _, _, hprov, -, hutc, -, -, rfl⟩ := updateTours_ok h
  have h0 : ToursP P w0.tours := by
    cases hprov with
    | shrunk hu => exact utc_toursP ho (hp _ rfl) hu
    | dummyGone => exact ho
    | vehicleGone => exact forall_assocErase ho
    | absent => exact ho
  exact utc_toursP h0 hr hutc

theorem fitLoop_tourP (hP : TourPred nw P) {chk : Bool} {fuel : Nat} {prov : Option Tour} {recv : Tour}
    {rem : Option (List Nat)} {moved : List Nat} {np : Option Tour} {nr : Tour} {mv : List Nat}
    (hprov : ∀ t, prov = some t → P t) (h : fitLoop nw chk fuel prov recv rem moved = .ok (np, nr, mv)) :
    (∀ t, np = some t → P t) ∧ (P recv → P nr) :=
  (fitLoop_induct (I := fun prov' recv' _ _ => (∀ t, prov' = some t → P t) ∧ (P recv → P recv'))
    (fun _ _ _ _ _ hI => hI)
    (fun _ _ _ _ _ _ _ _ _ _ _ hI _ _ hrem _ _ hins =>
      ⟨fun _ e => hP.remove (hI.1 _ rfl) (e ▸ hrem),
       fun hr => hP.insert (hI.2 hr) (removed_pathOK (hP.ok (hI.1 _ rfl)) hrem) hins⟩)
    fuel prov recv rem moved np nr mv ⟨hprov, id⟩ h).elim fun _ hI => hI

/-- with the path check on (dummy provider, real receiver) nothing is needed of the provider's tour -/
theorem fitLoop_recvP (hP : TourPred nw P) {fuel : Nat} {prov : Option Tour} {recv : Tour}
    {rem : Option (List Nat)} {moved : List Nat} {np : Option Tour} {nr : Tour} {mv : List Nat}
    (h : fitLoop nw true fuel prov recv rem moved = .ok (np, nr, mv)) (hr : P recv) : P nr :=
  (fitLoop_induct (I := fun _ recv' _ _ => P recv') (fun _ _ _ _ _ hI => hI)
    (fun _ _ _ _ _ _ _ _ _ _ _ hI _ _ hrem hchk _ hins =>
      hP.insert hI ⟨chainB_of_check hchk, (removed_facts hrem).1⟩ hins)
    fuel prov recv rem moved np nr mv hr h).elim fun _ hI => hI

theorem spawn_toursP (hP : TourPred nw P) {s s' : Schedule} {vt : Nat} {path : List Nat} {v : Veh}
    (ho : ToursP P s.tours) (h : spawnVehicleForPath nw s vt path = .ok (s', v)) : ToursP P s'.tours := by
  obtain ⟨r, rfl⟩ := spawnVehicleForPath_ok h
  exact forall_assocSet ho (hP.new r.tour_eq)

theorem delete_toursP {s s' : Schedule} {v : Veh}
    (ho : ToursP P s.tours) (h : replaceVehicleByDummy nw s v = .ok s') : ToursP P s'.tours := by
  obtain ⟨_, rfl⟩ := replaceVehicleByDummy_ok h
  exact forall_assocErase ho

theorem dummySpawn_toursP (hP : TourPred nw P) {s s' : Schedule} {d : Veh} {vt : Nat} {v : Veh}
    (ho : ToursP P s.tours) (h : spawnToReplaceDummy nw s d vt = .ok (s', v)) : ToursP P s'.tours := by
  obtain ⟨_, s1, -, -, hdel, hspawn⟩ := spawnToReplaceDummy_ok h
  have ho1 : ToursP P s1.tours := by rw [(deleteDummy_ok hdel).2.2]; exact ho
  exact spawn_toursP hP ho1 hspawn

theorem addPath_toursP (hP : TourPred nw P) {s s' : Schedule} {v : Veh} {path : List Nat} {rm : Option (List Nat)}
    (ho : ToursP P s.tours) (hp : PathOK nw path)
    (h : addPathToVehicleTour nw s v path = .ok (s', rm)) : ToursP P s'.tours := by
  obtain ⟨r, rfl⟩ := addPathToVehicleTour_ok h
  exact forall_assocSet ho (hP.insert (ho _ _ r.old_eq) hp r.insert_eq)

theorem rmSeg_toursP (hP : TourPred nw P) {s s' : Schedule} {v : Veh} {a b : Nat}
    (hi : ListInv s) (ho : ToursP P s.tours) (h : removeSegment nw s v a b = .ok s') : ToursP P s'.tours := by
  obtain ⟨_, shrunk, _, hv, htour, hrem, h⟩ := removeSegment_ok h
  cases shrunk with
  | none => exact delete_toursP ho h
  | some newTour =>
    obtain ⟨r, rfl⟩ := h
    exact utc_toursP ho (fun _ => hP.remove (vehTour_P hi ho hv htour) hrem) r.tours_eq

theorem fit_toursP (hP : TourPred nw P) {s s' : Schedule} {p r : Veh} {a b : Nat}
    (hi : ListInv s) (ho : ToursP P s.tours) (h : fitReassign nw s p r a b = .ok s') : ToursP P s'.tours := by
  obtain ⟨x, rfl⟩ := fitReassign_ok h
  have hloop := x.loop_eq
  cases hpd : s.isDummy p with
  | false =>
    have hf := fitLoop_tourP hP (fun t e => by cases e; exact tourOf_P ho x.prov_eq hpd) hloop
    exact updateTours_toursP (w := Work.ofSchedule s) ho (fun t e _ => hf.1 t e)
      (fun hr => hf.2 (tourOf_P ho x.recv_eq hr)) x.update_eq
  | true =>
    refine updateTours_toursP (w := Work.ofSchedule s) ho (fun t _ hnd => by rw [hpd] at hnd; cases hnd) ?_
      x.update_eq
    intro hr
    obtain ⟨hrt', hvr⟩ := recv_cases hi x.recv_eq hr
    rw [hpd, hvr] at hloop
    exact fitLoop_recvP hP hloop (ho r x.rt hrt')

theorem override_toursP (hP : TourPred nw P) {s s' : Schedule} {p r : Veh} {a b : Nat} {d : Option Veh}
    (hi : ListInv s) (ho : ToursP P s.tours) (h : overrideReassign nw s p r a b = .ok (s', d)) :
    ToursP P s'.tours := by
  obtain ⟨_, x, -, rfl⟩ := overrideReassign_ok h
  have hchk := x.chain
  refine updateTours_toursP (w := Work.ofSchedule s) ho ?_ ?_ x.update_eq
  · intro t e hnd
    exact hP.remove (tourOf_P ho x.prov_eq hnd) (e ▸ x.remove_eq)
  · intro hr
    obtain ⟨hrt', hvr⟩ := recv_cases hi x.recv_eq hr
    have hchain : chainB nw x.path = true := by
      cases hpd : s.isDummy p with
      | false => exact (removed_facts x.remove_eq).2 (hP.ok (tourOf_P ho x.prov_eq hpd)).chain
      | true =>
        rw [hpd, hvr] at hchk
        exact chainB_of_check (Bool.eq_false_iff.mp hchk)
    exact hP.insert (ho r x.rt hrt') ⟨hchain, (removed_facts x.remove_eq).1⟩ x.insert_eq

theorem fold_toursP (F : Acc → Veh → R Acc) {L : List Veh} {acc acc' : Acc}
    (hF : ∀ c v c', v ∈ L → F c v = .ok c' → ∃ nt, c'.1 = assocSet c.1 v nt ∧ P nt)
    (ho : ToursP P acc.1) (h : L.foldlM F acc = .ok acc') : ToursP P acc'.1 := by
  refine foldlM_induct F (fun c => ToursP P c.1) L acc acc' (fun v hv c c' hc hstep => ?_) ho h
  obtain ⟨nt, hset, hnt⟩ := hF c v c' hv hstep
  rw [hset]
  exact forall_assocSet hc hnt

theorem improveStep_tourP (hP : TourPred nw P) {s : Schedule} {acc acc' : Acc} {v : Veh} (hi : ListInv s)
    (ho : ToursP P s.tours) (h : improveStep nw s acc v = .ok acc') :
    ∃ nt, acc'.1 = assocSet acc.1 v nt ∧ P nt := by
  obtain ⟨r, rfl⟩ := improveStep_ok h
  exact ⟨r.nt, rfl, improveDepotsOfTour_keeps r.improve_eq (vehTour_P hi ho (typed_isVehicle r.type_eq) r.tour_eq)
    (fun _ _ _ => hP.replaceStart) (fun _ _ _ => hP.replaceEnd)⟩

theorem greedyStep_tourP (hP : TourPred nw P) {s : Schedule} {acc acc' : Acc} {v : Veh} (hi : ListInv s)
    (ho : ToursP P s.tours) (hv : s.isVehicle v = true) (h : greedyStep nw s acc v = .ok acc') :
    ∃ nt, acc'.1 = assocSet acc.1 v nt ∧ P nt := by
  obtain ⟨r, rfl⟩ := greedyStep_ok h
  exact ⟨r.nt, rfl, hP.replaceEnd (vehTour_P hi ho hv r.tour_eq) r.replace_eq⟩

theorem endStep_tourP (hP : TourPred nw P) {s : Schedule} {acc acc' : Acc} {v : Veh} (hi : ListInv s)
    (ho : ToursP P s.tours) (h : C05.endStep nw s acc v = .ok acc') :
    ∃ nt, acc'.1 = assocSet acc.1 v nt ∧ P nt := by
  obtain ⟨r, rfl⟩ := C05.endStep_ok h
  exact ⟨r.nt, rfl, hP.replaceEnd (vehTour_P hi ho (typed_isVehicle r.type_eq) r.tour_eq) r.replace_eq⟩

theorem endConsistent_toursP (hP : TourPred nw P) {s s' : Schedule} (hi : ListInv s) (ho : ToursP P s.tours)
    (h : reassignEndDepotsConsistent nw s = .ok s') : ToursP P s'.tours := by
  obtain ⟨_, _, _, _, _, hfold, -, rfl⟩ := reassignEndDepotsConsistent_ok h
  exact fold_toursP (C05.endStep nw s) (fun _ _ _ _ hstep => endStep_tourP hP hi ho hstep) ho hfold

theorem endGreedy_toursP (hP : TourPred nw P) {s s' : Schedule} (hi : ListInv s) (ho : ToursP P s.tours)
    (h : reassignEndDepotsGreedily nw s = .ok s') : ToursP P s'.tours := by
  obtain ⟨_, _, _, _, _, hfold, -, rfl⟩ := reassignEndDepotsGreedily_ok h
  exact fold_toursP (greedyStep nw s)
    (fun _ _ _ hv hstep => greedyStep_tourP hP hi ho (listed_isVehicle hi hv) hstep) ho hfold

theorem improve_toursP (hP : TourPred nw P) {s s' : Schedule} {vs : Option (List Veh)} (hi : ListInv s)
    (ho : ToursP P s.tours) (h : improveDepots nw s vs = .ok s') : ToursP P s'.tours := by
  obtain ⟨_, _, _, _, _, _, -, hfold, -, rfl⟩ := improveDepots_ok h
  exact fold_toursP (improveStep nw s) (fun _ _ _ _ hstep => improveStep_tourP hP hi ho hstep) ho hfold

theorem recompute_toursP {s s' : Schedule} {vts : Option (List Nat)} (ho : ToursP P s.tours)
    (h : recomputeTransitionsFor nw s vts = .ok s') : ToursP P s'.tours := by
  obtain ⟨_, _, -, rfl⟩ := recomputeTransitionsFor_ok h
  exact ho

theorem toursP_step (hP : TourPred nw P) (s : Schedule) (op : Spec.SOp) (r : OpResult) (hi : ListInv s)
    (ho : ToursP P s.tours) (h : applyOp nw s op = .ok r) : ToursP P r.sched.tours :=
  applyOp_cases (motive := fun _ s' => ToursP P s'.tours)
    (toursP_empty nw)
    (fun _ _ _ _ => spawn_toursP hP ho)
    (fun _ _ _ _ => dummySpawn_toursP hP ho)
    (fun _ _ => delete_toursP ho)
    (fun _ _ _ _ _ hp => addPath_toursP hP ho (pathNew_pathOK hp))
    (fun _ _ _ _ => rmSeg_toursP hP hi ho)
    (fun _ _ _ _ _ => fit_toursP hP hi ho)
    (fun _ _ _ _ _ _ => override_toursP hP hi ho)
    (fun _ _ => improve_toursP hP hi ho)
    (fun _ => endGreedy_toursP hP hi ho)
    (fun _ _ => recompute_toursP ho)
    (fun _ => endConsistent_toursP hP hi ho)
    (fun _ _ _ _ _ _ _ => ho)
    h

end

theorem fitLoop_recvOK (nw : Network) (hd : C17.DepotTimes nw) (hw : NodesWF' nw) :
    ∀ (fuel : Nat) (prov : Option Tour) (recv : Tour) (rem : Option (List Nat)) (moved : List Nat)
      (np : Option Tour) (nr : Tour) (mv : List Nat),
      fitLoop nw true fuel prov recv rem moved = .ok (np, nr, mv) → TourOK nw recv → TourOK nw nr :=
  fun _ _ _ _ _ _ _ _ => fitLoop_recvP (tourOK_pred hd hw)

structure TInv (nw : Network) (s : Schedule) : Prop where
  listing : ListInv s
  dummies : DummyInv s
  tours : ToursOK nw s.tours

theorem C10_tours_step (nw : Network) (hdt : C17.DepotTimes nw) (hw : NodesWF' nw) (s : Schedule) (op : Spec.SOp)
    (r : OpResult) (hinv : TInv nw s) (h : applyOp nw s op = .ok r) : TInv nw r.sched :=
  ⟨C10_listing_step nw s op r hinv.listing h, dk_step nw s op r hinv.dummies h,
    toursP_step (tourOK_pred hdt hw) s op r hinv.listing hinv.tours h⟩

theorem C10_tours_reachable (nw : Network) (hdt : C17.DepotTimes nw) (hw : NodesWF' nw)
    (ops : List Spec.SOp) (s s' : Schedule) (hinv : TInv nw s) (h : runOps nw s ops = some s') : TInv nw s' :=
  runOps_induct0 (C10_tours_step nw hdt hw) ops s s' hinv h

/-- **C10 / C01 (tour clause), every history**: in every schedule the model reaches from the empty
    schedule by public modifications, every real vehicle's tour is start depot, activities, end
    depot with all consecutive nodes connectable -/
theorem C10_tours_from_empty (nw : Network) (hdt : C17.DepotTimes nw) (hw : NodesWF' nw) (ops : List Spec.SOp)
    (s' : Schedule) (h : runOps nw (Schedule.empty nw) ops = some s') :
    TInv nw s' :=
  C10_tours_reachable nw hdt hw ops _ s' ⟨empty_listInv nw, empty_dk nw, toursP_empty nw⟩ h

/-- the network hypotheses are decidable: the drivers evaluate `tourHypsB` on every network of a run
    (STAT `c10.tourhyps`) -/
theorem tourHyps_sound (nw : Network) (h : tourHypsB nw = true) : C17.DepotTimes nw ∧ NodesWF' nw := by
  unfold tourHypsB at h
  have hall := List.all_eq_true.mp h
  have hnode : ∀ i, i < nw.nodes.size ∨ nw.node i = default := by
    intro i
    by_cases hi : i < nw.nodes.size
    · exact Or.inl hi
    · right; unfold Network.node; simp [Array.getD, hi]
  refine ⟨⟨?_, ?_⟩, ?_⟩
  · intro i hk
    rcases hnode i with hi | hi
    · have := hall i (by simp [Network.allIdx, hi])
      simp only [Bool.and_eq_true, Bool.or_eq_true, bne_iff_ne, ne_eq, beq_iff_eq] at this
      rcases this.1.1 with h0 | h0
      · exact absurd hk h0
      · exact h0
    · rw [hi]; rfl
  · intro i hk
    rcases hnode i with hi | hi
    · have := hall i (by simp [Network.allIdx, hi])
      simp only [Bool.and_eq_true, Bool.or_eq_true, bne_iff_ne, ne_eq, beq_iff_eq] at this
      rcases this.1.2 with h0 | h0
      · exact absurd hk h0
      · exact h0
    · rw [hi] at hk; cases hk
  · intro i
    rcases hnode i with hi | hi
    · have := hall i (by simp [Network.allIdx, hi])
      simp only [Bool.and_eq_true] at this
      exact this.2
    · rw [hi]; decide

end RSSched.C10S
