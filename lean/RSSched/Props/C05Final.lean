/-
Props/C05Final: the schedule returned by the modelled pipeline (modelled transition optimiser) is
cyclically repeatable: every real vehicle ends its day in the depot in which its successor in its
rotation cycle starts — where the cycles are the ones stored in the returned schedule, they partition
the real vehicles per type (`C15Opt.C05_final_partition`), and the successor of a vehicle is a real vehicle
of the same type.
-/
import RSSched.Props.C10All
namespace RSSched.C05F
open RSSched C15 C10Cyc C10F C15Opt C10A

theorem successor_member {tr : Transition} {v next : Veh} (h : Transition.successorOf tr v = .ok next) :
    next ∈ members tr := by
  unfold Transition.successorOf at h
  obtain ⟨ci, hci, h⟩ := bind_ok h
  obtain ⟨cyc, hcyc, h⟩ := bind_ok h
  obtain ⟨pos, hpos, h⟩ := bind_ok h
  have hcyc := unwrapO_ok hcyc
  have h := unwrapO_ok h
  exact List.mem_flatMap.mpr ⟨cyc, List.mem_of_getElem? hcyc, List.mem_of_getElem? h⟩

theorem listed_of_typed {nw : Network} {s : Schedule} (hi : C10L.ListInv s) (hK : C10Lim.IdsIn nw s) {v : Veh} {vt : Nat}
    (hv : assocGet? s.vehicles v = some vt) : v ∈ s.vehiclesAll nw := by
  obtain ⟨l, hl, hvl⟩ := hi.complete v vt hv
  have hl' : assocGet? s.idsByType vt = some l := hl
  unfold Schedule.vehiclesAll
  refine List.mem_flatMap.mpr ⟨vt, type_inRange hi hK hv, ?_⟩
  unfold Schedule.vehiclesOfType
  rw [hl']; exact hvl

/-- **C05 (cyclically repeatable), modelled pipeline**: in the returned schedule every vehicle listed
    before the last stage ends in the depot where its successor in its rotation cycle starts; the
    successor is a real vehicle of the same type -/
theorem C05_final_repeatable (nw : Network) (hn : NetHyp nw) (hovf : C10Lim.OvfNode nw)
    (hdep : ∀ n, (nw.node n).isStartDepot = true →
      nw.depotIdxOf (nw.endDepotNodeOf (nw.depotIdxOf n)) = nw.depotIdxOf n)
    (o : Solve.Oracle) (p : Pick) (fuel : Nat) (ho : o.optimise = optimise nw p fuel) (tr : Solve.Trace)
    (h : Solve.solve nw o = .ok tr) (v : Veh) (hv : v ∈ tr.withTransitions.vehiclesAll nw) :
    ∃ vt t next tv tn e sd, tr.withTransitions.typeOf? v = some vt ∧
      assocGet? tr.withTransitions.transitions vt = some t ∧ Transition.successorOf t v = .ok next ∧
      assocGet? tr.withTransitions.vehicles next = some vt ∧
      assocGet? tr.final.tours v = some tv ∧ tv.endDepot nw = .ok e ∧
      assocGet? tr.final.tours next = some tn ∧ tn.startDepot nw = .ok sd ∧
      nw.depotIdxOf e = nw.depotIdxOf sd := by
  obtain ⟨_, i3, _⟩ := pipeline_all nw hn hovf o p fuel ho tr h
  obtain ⟨-, -, -, hw, hfin⟩ := C16P.solve_ok h
  have hcycT : CycInv nw tr.withTransitions := by
    rw [hw, ho]
    exact optimise_cyc p fuel i3.cycles
  have hiT : C10L.ListInv tr.withTransitions := by
    rw [hw]
    exact i3.listing
  have hKT : C10Lim.IdsIn nw tr.withTransitions := by
    rw [hw]
    exact i3.keys
  obtain ⟨vt, t, next, tv, tn, e, sd, h1, h2, h3, h4, h5, h6⟩ :=
    C05.C05_end_is_successors_start nw _ tr.final hdep hfin v hv
  obtain ⟨hc, hm⟩ := hcycT vt t h2
  have hnext : assocGet? tr.withTransitions.vehicles next = some vt := (hm next).mp (successor_member h3)
  obtain ⟨g1, g2, g3⟩ := h6 (listed_of_typed hiT hKT hnext)
  exact ⟨vt, t, next, tv, tn, e, sd, h1, h2, h3, hnext, h4, h5, g1, g2, g3⟩

end RSSched.C05F
