/-
Props/C09Unserved: the cached unserved-passengers pair of the schedule equals its recomputation from
the formations (C09 / C04 / C07), for the model, every history: `update_train_formation` keeps
"cache = Σ over service trips of the shortfall of the trip's formation" (it subtracts the old term
of the node and adds the new one), and the vehicle types the shortfalls are computed with do not
change for vehicles that stay listed (formation membership, Props/C10Fit).
-/
import RSSched.Props.C11Args
namespace RSSched.C09U
open Schedule Spec C02 C13 C10L C09C C10F C10Fit

/-- the shortfall pair summed over all service trips -/
def sumU (nw : Network) (typeOf : Veh → Option Nat) (forms : List (Nat × List Veh)) : Nat × Nat :=
  (sumNat (nw.allServiceNodes.map (fun n => (unservedOf nw typeOf n (formOf forms n)).1)),
   sumNat (nw.allServiceNodes.map (fun n => (unservedOf nw typeOf n (formOf forms n)).2)))

/-- **the unserved cache is exact** -/
def UExact (nw : Network) (s : Schedule) : Prop := s.unserved = sumU nw s.typeOf? s.formations

theorem allService_nodup (nw : Network) : nw.allServiceNodes.Nodup := by
  unfold Network.allServiceNodes
  apply List.Nodup.sublist List.filter_sublist
  unfold Network.sortedByStartAll
  exact ((List.mergeSort_perm _ _).nodup_iff).mpr (by unfold Network.allIdx; exact List.nodup_range)

theorem sumNat_update (L : List Nat) (hL : L.Nodup) (g g' : Nat → Nat) (x : Nat) (hx : x ∈ L)
    (hsame : ∀ n, n ≠ x → g' n = g n) : sumNat (L.map g') + g x = sumNat (L.map g) + g' x := by
  induction L with
  | nil => cases hx
  | cons a as ih =>
    obtain ⟨ha, hnd⟩ := List.nodup_cons.mp hL
    simp only [List.map_cons, Network.sumNat_cons]
    rcases List.mem_cons.mp hx with rfl | hxa
    · rw [List.map_congr_left (fun n hn => hsame n (fun e => ha (e ▸ hn)))]
      omega
    · rw [hsame a (fun e => ha (e ▸ hxa))]
      have := ih hnd hxa
      omega

theorem sumU_congr {nw : Network} {f g : Veh → Option Nat} {forms : List (Nat × List Veh)}
    (h : ∀ n v, v ∈ formOf forms n → f v = g v) : sumU nw f forms = sumU nw g forms := by
  unfold sumU unservedOf
  have : ∀ n, (formOf forms n).filterMap f = (formOf forms n).filterMap g := by
    intro n
    have hh : ∀ v, v ∈ formOf forms n → f v = g v := h n
    generalize formOf forms n = l at hh
    induction l with
    | nil => rfl
    | cons a as ih =>
      simp only [List.filterMap_cons]
      rw [hh a (by simp), ih (fun v hv => hh v (by simp [hv]))]
  simp only [this]

theorem service_inrange {nw : Network} {n : Nat} (h : (nw.node n).isService = true) : n < nw.nodes.size := by
  by_cases hn : n < nw.nodes.size
  · exact hn
  · have : nw.node n = default := by unfold Network.node; simp [Array.getD, hn]
    have hd : (default : Node).isService = false := by decide
    rw [this, hd] at h; cases h

theorem mem_allService_iff {nw : Network} {n : Nat} : n ∈ nw.allServiceNodes ↔ (nw.node n).isService = true := by
  unfold Network.allServiceNodes Network.sortedByStartAll Network.allIdx
  rw [List.mem_filter, (List.mergeSort_perm _ _).mem_iff, List.mem_range]
  exact and_iff_right_of_imp service_inrange

theorem sumU_set_service {nw : Network} {typeOf : Veh → Option Nat} {forms : List (Nat × List Veh)} {node : Nat}
    (f' : List Veh) (hs : (nw.node node).isService = true) :
    (sumU nw typeOf (assocSet forms node f')).1 + (unservedOf nw typeOf node (formOf forms node)).1
      = (sumU nw typeOf forms).1 + (unservedOf nw typeOf node f').1 ∧
    (sumU nw typeOf (assocSet forms node f')).2 + (unservedOf nw typeOf node (formOf forms node)).2
      = (sumU nw typeOf forms).2 + (unservedOf nw typeOf node f').2 := by
  have key : ∀ (proj : Nat × Nat → Nat),
      sumNat (nw.allServiceNodes.map (fun n => proj (unservedOf nw typeOf n (formOf (assocSet forms node f') n))))
        + proj (unservedOf nw typeOf node (formOf forms node))
      = sumNat (nw.allServiceNodes.map (fun n => proj (unservedOf nw typeOf n (formOf forms n))))
        + proj (unservedOf nw typeOf node f') := by
    intro proj
    have := sumNat_update nw.allServiceNodes (allService_nodup nw)
      (fun n => proj (unservedOf nw typeOf n (formOf forms n)))
      (fun n => proj (unservedOf nw typeOf n (formOf (assocSet forms node f') n))) node (mem_allService_iff.mpr hs)
      (fun n hne => by simp only [formOf_set, hne, ↓reduceIte])
    simpa only [formOf_set, ↓reduceIte] using this
  exact ⟨key Prod.fst, key Prod.snd⟩

theorem sumU_set_other {nw : Network} {typeOf : Veh → Option Nat} {forms : List (Nat × List Veh)} {node : Nat}
    (f' : List Veh) (hs : ¬(nw.node node).isService = true) :
    sumU nw typeOf (assocSet forms node f') = sumU nw typeOf forms := by
  have : ∀ n ∈ nw.allServiceNodes, formOf (assocSet forms node f') n = formOf forms n := by
    intro n hn
    rw [formOf_set, if_neg]
    intro e
    exact hs (e ▸ mem_allService_iff.mp hn)
  unfold sumU
  congr 2
  · exact List.map_congr_left (fun n hn => by rw [this n hn])
  · exact List.map_congr_left (fun n hn => by rw [this n hn])

/-- `update_train_formation` keeps "cache = Σ shortfalls" for a fixed type function -/
theorem utf_sumU (nw : Network) (s : Schedule) (typeOf : Veh → Option Nat) (provider receiver : Option Veh) :
    ∀ (nodes : List Nat) (forms forms' : List (Nat × List Veh)) (u u' : Nat × Nat),
    updateTrainFormation nw s typeOf forms u provider receiver nodes = .ok (forms', u') →
    u = sumU nw typeOf forms → u' = sumU nw typeOf forms'
  | [], forms, forms', u, u', h, hu => by
    cases h
    exact hu
  | node :: rest, forms, forms', u, u', h, hu => by
    rcases updateTrainFormation_cons_ok h with ⟨-, h⟩ | ⟨-, f', u1, -, hu1, h⟩
    · exact utf_sumU nw s typeOf provider receiver rest forms forms' u u' h hu
    · refine utf_sumU nw s typeOf provider receiver rest _ forms' u1 u' h ?_
      split at hu1
      · rename_i hsvc
        obtain ⟨old, hold, hle1, hle2, rfl⟩ := hu1
        have hof : formOf forms node = old := by unfold formOf; rw [hold]; rfl
        obtain ⟨k1, k2⟩ := sumU_set_service (typeOf := typeOf) (forms := forms) f' hsvc
        rw [hof] at k1 k2
        rw [hu] at hle1 hle2 ⊢
        exact Prod.ext (by dsimp only; omega) (by dsimp only; omega)
      · rename_i hsvc
        rw [hu1, hu]
        exact (sumU_set_other f' hsvc).symm

theorem sumU_of_unchanged {ε : Type} {nw : Network} {typeOf : Veh → Option Nat} {forms forms' : List (Nat × List Veh)}
    {u u' : Nat × Nat} (h : (.ok (forms, u) : Except ε _) = .ok (forms', u')) (hu : u = sumU nw typeOf forms) :
    u' = sumU nw typeOf forms' := by
  cases h
  exact hu

theorem member_typed {nw : Network} {s : Schedule} (hi : ListInv s) (hf : FormCount nw s.tours s.formations)
    {n : Nat} {v : Veh} (hv : v ∈ formOf s.formations n) : (assocGet? s.vehicles v).isSome = true := by
  have hc : 0 < (formOf s.formations n).count v := List.count_pos_iff.mpr hv
  rw [hf n v] at hc
  unfold tourOcc at hc
  have hs : (assocGet? s.vehicles v).isSome = (assocGet? s.tours v).isSome := hi.same v
  rw [hs]
  cases hg : assocGet? s.tours v with
  | none =>
    rw [hg] at hc
    simp at hc
  | some t => rfl

theorem typeIn_of_some {s : Schedule} {V' : List (Veh × Nat)} {v : Veh} (h : (assocGet? V' v).isSome = true) :
    typeIn V' s v = assocGet? V' v := by
  unfold typeIn
  cases hg : assocGet? V' v with
  | none => rw [hg] at h; cases h
  | some t => rfl

/-- An operation runs its formation updates with the type function `typeIn s'.vehicles s` of the
    vehicle map it leaves behind. If that agrees with the old types on the old vehicles and the updates
    keep "cache = Σ shortfalls" for it, the new cache is exact: old members are old vehicles, new
    members are new vehicles (formation membership). -/
theorem uexact_of_utf {nw : Network} {s s' : Schedule}
    (hu : UExact nw s) (hi : ListInv s) (hf : FormCount nw s.tours s.formations)
    (hi' : ListInv s') (hf' : FormCount nw s'.tours s'.formations)
    (hpre : ∀ v, (assocGet? s.vehicles v).isSome = true → typeIn s'.vehicles s v = s.typeOf? v)
    (hchain : s.unserved = sumU nw (typeIn s'.vehicles s) s.formations →
      s'.unserved = sumU nw (typeIn s'.vehicles s) s'.formations) : UExact nw s' := by
  have h1 : s.unserved = sumU nw (typeIn s'.vehicles s) s.formations := by
    rw [hu]
    exact (sumU_congr (fun n v hv => hpre v (member_typed hi hf hv))).symm
  unfold UExact
  rw [hchain h1]
  exact sumU_congr (fun n v hv => typeIn_of_some (member_typed hi' hf' hv))

theorem typeIn_same (s : Schedule) (v : Veh) : typeIn s.vehicles s v = s.typeOf? v := by
  unfold typeIn Schedule.typeOf?
  cases assocGet? s.vehicles v <;> rfl

theorem typeIn_erase (s : Schedule) (k v : Veh) : typeIn (assocErase s.vehicles k) s v = s.typeOf? v := by
  unfold typeIn Schedule.typeOf?
  rw [assocGet?_assocErase]
  by_cases e : v = k
  · simp [e]
  · simp only [e, ↓reduceIte]; cases assocGet? s.vehicles v <;> rfl

theorem typeIn_set_other (s : Schedule) (k : Veh) (vt : Nat) (v : Veh) (hne : v ≠ k) :
    typeIn (assocSet s.vehicles k vt) s v = s.typeOf? v := by
  unfold typeIn Schedule.typeOf?
  rw [assocGet?_assocSet]
  simp only [hne, ↓reduceIte]; cases assocGet? s.vehicles v <;> rfl

theorem fresh_not_vehicle {s : Schedule} (hi : ListInv s) : (assocGet? s.vehicles (Veh.real s.counter)).isSome = false := by
  have hs : (assocGet? s.vehicles (Veh.real s.counter)).isSome = (assocGet? s.tours (Veh.real s.counter)).isSome :=
    hi.same _
  rw [hs, counter_no_tour hi]; rfl

theorem spawn_uexact {nw : Network} {s s' : Schedule} {vt : Nat} {path : List Nat} {v : Veh}
    (hu : UExact nw s) (hi : ListInv s) (hf : FormCount nw s.tours s.formations)
    (hi' : ListInv s') (hf' : FormCount nw s'.tours s'.formations)
    (h : spawnVehicleForPath nw s vt path = .ok (s', v)) : UExact nw s' := by
  obtain ⟨r, rfl⟩ := spawnVehicleForPath_ok h
  refine uexact_of_utf hu hi hf hi' hf' (fun w hw => typeIn_set_other s v vt w ?_)
    (utf_sumU nw s _ _ _ _ _ _ _ _ r.forms_eq)
  intro e
  rw [e, r.veh_eq, fresh_not_vehicle hi] at hw
  cases hw

theorem delete_uexact {nw : Network} {s s' : Schedule} {v : Veh}
    (hu : UExact nw s) (hi : ListInv s) (hf : FormCount nw s.tours s.formations)
    (hi' : ListInv s') (hf' : FormCount nw s'.tours s'.formations)
    (h : replaceVehicleByDummy nw s v = .ok s') : UExact nw s' := by
  obtain ⟨r, rfl⟩ := replaceVehicleByDummy_ok h
  exact uexact_of_utf hu hi hf hi' hf' (fun w _ => typeIn_erase s v w) (utf_sumU nw s _ _ _ _ _ _ _ _ r.forms_eq)

theorem addPath_uexact {nw : Network} {s s' : Schedule} {v : Veh} {path : List Nat} {rm : Option (List Nat)}
    (hu : UExact nw s) (hi : ListInv s) (hf : FormCount nw s.tours s.formations)
    (hi' : ListInv s') (hf' : FormCount nw s'.tours s'.formations)
    (h : addPathToVehicleTour nw s v path = .ok (s', rm)) : UExact nw s' := by
  obtain ⟨r, rfl⟩ := addPathToVehicleTour_ok h
  refine uexact_of_utf hu hi hf hi' hf' (fun w _ => typeIn_same s w) (fun h0 => ?_)
  have h1 := utf_sumU nw s _ _ _ _ _ _ _ _ r.forms1_eq h0
  cases rm with
  | none => exact sumU_of_unchanged r.forms_eq h1
  | some rp => exact utf_sumU nw s _ _ _ _ _ _ _ _ r.forms_eq h1

theorem rmSeg_uexact {nw : Network} {s s' : Schedule} {v : Veh} {a b : Nat}
    (hu : UExact nw s) (hi : ListInv s) (hf : FormCount nw s.tours s.formations)
    (hi' : ListInv s') (hf' : FormCount nw s'.tours s'.formations)
    (h : removeSegment nw s v a b = .ok s') : UExact nw s' := by
  obtain ⟨_, shrunk, _, -, -, -, h⟩ := removeSegment_ok h
  cases shrunk with
  | none => exact delete_uexact hu hi hf hi' hf' h
  | some newTour =>
    obtain ⟨r, rfl⟩ := h
    exact uexact_of_utf hu hi hf hi' hf' (fun w _ => typeIn_same s w) (utf_sumU nw s _ _ _ _ _ _ _ _ r.forms_eq)

/-- `update_tours` runs one formation update, with the type function of the vehicle map it leaves behind -/
theorem updateTours_utf {nw : Network} {s : Schedule} {w' : Work} {p r : Veh} {newProv : Option Tour}
    {newRecv : Tour} {moved : List Nat}
    (h : updateTours nw s (Work.ofSchedule s) (some p) newProv r newRecv moved = .ok w') :
    (w'.vehicles = s.vehicles ∨ w'.vehicles = assocErase s.vehicles p) ∧
    updateTrainFormation nw s (typeIn w'.vehicles s) s.formations s.unserved (some p)
      (if s.isVehicle r then some r else none) moved = .ok (w'.forms, w'.unserved) := by
  obtain ⟨w0, _, _, _, _, _, _, _, hprov, -, -, -, hutf, rfl⟩ := updateTours_ok h
  cases hprov with
  | shrunk => exact ⟨Or.inl rfl, hutf⟩
  | dummyGone => exact ⟨Or.inl rfl, hutf⟩
  | vehicleGone => exact ⟨Or.inr rfl, hutf⟩
  | absent => exact ⟨Or.inl rfl, hutf⟩

theorem typeIn_pre_of_or {s : Schedule} {V' : List (Veh × Nat)} {p : Veh}
    (h : V' = s.vehicles ∨ V' = assocErase s.vehicles p) (v : Veh) : typeIn V' s v = s.typeOf? v := by
  rcases h with e | e
  · rw [e]; exact typeIn_same s v
  · rw [e]; exact typeIn_erase s p v

theorem fit_uexact {nw : Network} {s s' : Schedule} {p r : Veh} {a b : Nat}
    (hu : UExact nw s) (hi : ListInv s) (hf : FormCount nw s.tours s.formations)
    (hi' : ListInv s') (hf' : FormCount nw s'.tours s'.formations)
    (h : fitReassign nw s p r a b = .ok s') : UExact nw s' := by
  obtain ⟨x, rfl⟩ := fitReassign_ok h
  obtain ⟨hor, hutf⟩ := updateTours_utf x.update_eq
  exact uexact_of_utf hu hi hf hi' hf' (fun v _ => typeIn_pre_of_or hor v) (utf_sumU nw s _ _ _ _ _ _ _ _ hutf)

theorem override_uexact {nw : Network} {s s' : Schedule} {p r : Veh} {a b : Nat} {d : Option Veh}
    (hu : UExact nw s) (hi : ListInv s) (hf : FormCount nw s.tours s.formations)
    (hi' : ListInv s') (hf' : FormCount nw s'.tours s'.formations)
    (h : overrideReassign nw s p r a b = .ok (s', d)) : UExact nw s' := by
  obtain ⟨replaced, x, -, rfl⟩ := overrideReassign_ok h
  obtain ⟨hor, hutf⟩ := updateTours_utf x.update_eq
  refine uexact_of_utf hu hi hf hi' hf' (fun v _ => typeIn_pre_of_or hor v) (fun h0 => ?_)
  have h1 := utf_sumU nw s _ _ _ _ _ _ _ _ hutf h0
  cases replaced with
  | none => exact sumU_of_unchanged x.forms_eq h1
  | some np =>
    have hf2 := x.forms_eq
    dsimp only at hf2
    split at hf2
    · exact utf_sumU nw s _ _ _ _ _ _ _ _ hf2 h1
    · exact sumU_of_unchanged hf2 h1

theorem depotOnly_uexact {nw : Network} {s s' : Schedule} (hu : UExact nw s) (h : DepotOnly s s') : UExact nw s' := by
  obtain ⟨_, _, _, _, _, rfl⟩ := h
  exact hu

theorem dummySpawn_uexact {nw : Network} {s s' : Schedule} {d : Veh} {vt : Nat} {v : Veh}
    (hu : UExact nw s) (hi : ListInv s) (hf : FormCount nw s.tours s.formations)
    (hi' : ListInv s') (hf' : FormCount nw s'.tours s'.formations)
    (h : spawnToReplaceDummy nw s d vt = .ok (s', v)) : UExact nw s' := by
  obtain ⟨_, s1, -, -, hdel, hspawn⟩ := spawnToReplaceDummy_ok h
  obtain ⟨-, -, rfl⟩ := deleteDummy_ok hdel
  exact spawn_uexact (s := { s with dummyTours := assocErase s.dummyTours d, dummyIds := s.dummyIds.filter (· != d) })
    hu hi hf hi' hf' hspawn

theorem empty_uexact (nw : Network) : UExact nw (Schedule.empty nw) := by
  unfold UExact sumU unservedOf Schedule.empty
  have hform : ∀ n, formOf ((nw.coverableNodes.map (fun n => (n, ([] : List Veh))))) n = [] := by
    intro n
    unfold formOf
    cases hg : assocGet? (nw.coverableNodes.map (fun n => (n, ([] : List Veh)))) n with
    | none => rfl
    | some f =>
      have hm := assocGet?_mem hg
      simp only [List.mem_map, Prod.mk.injEq] at hm
      obtain ⟨_, _, _, rfl⟩ := hm; rfl
  simp only [hform, List.filterMap_nil, List.map_map]
  rfl

/-- **C09 (unserved cache), one step**: every public modification keeps the cache exact, given
    formation membership before and after the step (`C10Fit.Inv`, `C10_forms_step`) -/
theorem C09_unserved_step (nw : Network) (hn : NetHyp nw) (s : Schedule) (op : SOp) (r : OpResult)
    (hinv : C10Fit.Inv nw s) (hu : UExact nw s) (hargs : ArgsOKF op) (h : applyOp nw s op = .ok r) :
    UExact nw r.sched := by
  have hinv' := C10_forms_step nw hn s op r hinv hargs h
  have hi := hinv.tinv.listing
  have hf := hinv.forms
  exact applyOp_cases
    (motive := fun _ s' => ListInv s' → FormCount nw s'.tours s'.formations → UExact nw s')
    (fun _ _ => empty_uexact nw)
    (fun _ _ _ _ hs hi' hf' => spawn_uexact hu hi hf hi' hf' hs)
    (fun _ _ _ _ hs hi' hf' => dummySpawn_uexact hu hi hf hi' hf' hs)
    (fun _ _ hs hi' hf' => delete_uexact hu hi hf hi' hf' hs)
    (fun _ _ _ _ _ _ hs hi' hf' => addPath_uexact hu hi hf hi' hf' hs)
    (fun _ _ _ _ hs hi' hf' => rmSeg_uexact hu hi hf hi' hf' hs)
    (fun _ _ _ _ _ hs hi' hf' => fit_uexact hu hi hf hi' hf' hs)
    (fun _ _ _ _ _ _ hs hi' hf' => override_uexact hu hi hf hi' hf' hs)
    (fun _ _ hs _ _ => depotOnly_uexact hu (improveDepots_depotOnly hs))
    (fun _ hs _ _ => depotOnly_uexact hu (reassignEndDepotsGreedily_depotOnly hs))
    (fun _ _ hs _ _ => depotOnly_uexact hu (recomputeTransitionsFor_depotOnly hs))
    (fun _ hs _ _ => depotOnly_uexact hu (reassignEndDepotsConsistent_depotOnly hs))
    (fun _ _ _ _ _ _ _ _ _ => hu)
    h hinv'.tinv.listing hinv'.forms

structure InvFU (nw : Network) (s : Schedule) : Prop where
  invF : C11A.InvF nw s
  uexact : UExact nw s

theorem stepInv_invFU {nw : Network} (hn : NetHyp nw) : C11A.StepInv nw (InvFU nw) where
  step := fun s op r hinv hargs h =>
    ⟨C11A.invF_step nw hn s op r hinv.invF hargs h, C09_unserved_step nw hn s op r hinv.invF.inv hinv.uexact hargs h⟩
  fresh := fun _ _ _ hinv hpt => C11A.tour_ne_fresh hinv.invF hpt
  setT := fun s trans hnd h => ⟨(C11A.stepInv_invF hn).setT s trans hnd h.invF, h.uexact⟩
  empty := ⟨(C11A.stepInv_invF hn).empty, empty_uexact nw⟩

/-- **C09 / C04 / C07 (unserved cache), every history**: in every schedule the model reaches from the
    empty schedule by public modifications (provider ≠ receiver in reassignments) the cached
    unserved-passengers pair equals the sum, over all service trips, of the passenger and seat
    shortfall of the vehicles listed in the trip's formation -/
theorem C09_unserved_from_empty (nw : Network) (hn : NetHyp nw) (ops : List SOp) (s' : Schedule)
    (hargs : ∀ op ∈ ops, ArgsOKF op) (h : runOps nw (Schedule.empty nw) ops = some s') :
    s'.unserved = sumU nw s'.typeOf? s'.formations :=
  (runOps_induct (stepInv_invFU hn).step ops _ s' (stepInv_invFU hn).empty hargs h).uexact

/-- … and at the stages of the modelled pipeline -/
theorem C09_unserved_pipeline (nw : Network) (hn : NetHyp nw) (o : Solve.Oracle)
    (hopt : ∀ s, ((o.optimise s).map (·.1)).Nodup) (tr : Solve.Trace) (h : Solve.solve nw o = .ok tr) :
    UExact nw tr.start ∧ UExact nw tr.afterSearch ∧ UExact nw tr.final := by
  obtain ⟨i2, i3, i5⟩ := C11A.solve_inv (stepInv_invFU hn) o hopt tr h
  exact ⟨i2.uexact, i3.uexact, i5.uexact⟩

/-- … and for every candidate of a neighbourhood -/
theorem C09_unserved_candidates (nw : Network) (hn : NetHyp nw) {limit threshold : Option Nat} {s : Schedule}
    {last : SwapInfo} {cands : List Swaps.Candidate} (hinv : InvFU nw s)
    (h : Swaps.neighborsOf nw limit threshold s last = .ok cands) : ∀ c ∈ cands, UExact nw c.sched :=
  fun c hc => (C11A.neighbors_invF (stepInv_invFU hn).toStepInv0 hinv h c hc).uexact

end RSSched.C09U
