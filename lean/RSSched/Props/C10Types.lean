/-
Props/C10Types: the type clause of C10 / C01, one step: the tour of a real vehicle holds only service
trips of the vehicle's type (besides depots and maintenance slots). Every node enters a real tour
through a type check: `spawn_vehicle_for_path`, `spawn_vehicle_to_replace_dummy_tour` and
`add_path_to_vehicle_tour` test the given path, the two reassignments run
`check_receiver_type_compatibility` (providers of the same type hand over nodes that are compatible by
the invariant; otherwise the sub-path is tested), and the depot modifications only write depot nodes.
-/
import RSSched.Props.C10Cycles
namespace RSSched.C10Ty
open RSSched Schedule Tour Spec C10T C10L C09C C10S C10F C10Fit C10Cyc C10Lim

def TyOK (nw : Network) (vt : Nat) (nodes : List Nat) : Prop := ∀ n ∈ nodes, nw.compatibleWithType n vt = true

/-- **the type clause** -/
def TypeInv (nw : Network) (s : Schedule) : Prop :=
  ∀ v t vt, assocGet? s.tours v = some t → assocGet? s.vehicles v = some vt → TyOK nw vt t.nodes

theorem tyOK_of_any {nw : Network} {vt : Nat} {path : List Nat}
    (h : path.any (fun n => !(nw.compatibleWithType n vt)) = false) : TyOK nw vt path := by
  intro n hn
  simpa using List.any_eq_false.mp h n hn

theorem compat_of_not_service {nw : Network} {n vt : Nat} (h : (nw.node n).isService = false) :
    nw.compatibleWithType n vt = true := by
  unfold Network.compatibleWithType; simp [h]

theorem not_service_of_depot {nw : Network} {n : Nat}
    (h : (nw.node n).isStartDepot = true ∨ (nw.node n).isEndDepot = true) : (nw.node n).isService = false := by
  unfold Node.isStartDepot Node.isEndDepot at h
  unfold Node.isService
  cases hk : (nw.node n).kind <;> simp [hk] at h ⊢

theorem tyOK_sub {nw : Network} {vt : Nat} {l l' : List Nat} (h : TyOK nw vt l') (hs : ∀ n ∈ l, n ∈ l') :
    TyOK nw vt l := fun n hn => h n (hs n hn)

theorem tyOK_set {nw : Network} {vt : Nat} {l : List Nat} {i d : Nat} (h : TyOK nw vt l)
    (hd : (nw.node d).isService = false) : TyOK nw vt (l.set i d) := by
  intro n hn
  rcases List.mem_or_eq_of_mem_set hn with h1 | h1
  · exact h n h1
  · rw [h1]; exact compat_of_not_service hd

theorem remove_sub {nw : Network} {t : Tour} {a b : Nat} {ot : Option Tour} {path : List Nat}
    (h : Tour.remove nw t a b = .ok (ot, path)) :
    (∀ t', ot = some t' → ∀ n ∈ t'.nodes, n ∈ t.nodes) ∧ (∀ n ∈ path, n ∈ t.nodes) := by
  obtain ⟨s, e, _, _, hsp, hsome, _⟩ := remove_split h
  constructor
  · intro t' ht' n hn
    rw [hsome t' ht'] at hn
    rcases List.mem_append.mp hn with h1 | h1
    · exact List.mem_of_mem_take h1
    · exact List.mem_of_mem_drop h1
  · intro n hn
    rw [hsp]; simp [hn]

theorem insert_sub (nw : Network) (hd : C17.DepotTimes nw) (hw : NodesWF' nw) (t t' : Tour) (path : List Nat)
    (rm : Option (List Nat)) (ht : TourOK nw t) (h : insertPath nw true t path = .ok (t', rm)) :
    ∀ n ∈ t'.nodes, n ∈ t.nodes ∨ n ∈ path := by
  have hc := C12.timeChain_of_chainB nw hd t.nodes ht.chain
  have hne : 0 < t.nodes.length := by have := shape_len ht.shape; omega
  obtain ⟨hnodes, -, -, -⟩ := insertPath_ref nw hd hw hc hne h
  intro n hn
  rw [hnodes, ht.real] at hn
  unfold insertRef stripForDummy at hn
  simp only [Bool.not_false, ↓reduceIte] at hn
  rcases List.mem_append.mp hn with h1 | h1
  · rcases List.mem_append.mp h1 with h3 | h3
    · exact Or.inl (List.mem_of_mem_take h3)
    · exact Or.inr h3
  · exact Or.inl (List.mem_of_mem_drop h1)

theorem replaceStart_tyOK {nw : Network} {t nt : Tour} {d vt : Nat} (h : t.replaceStartDepot nw d = .ok nt)
    (ht : TyOK nw vt t.nodes) : TyOK nw vt nt.nodes := by
  obtain ⟨hn, hd, -⟩ := replaceStartDepot_nodes h
  rw [hn]
  exact tyOK_set ht (not_service_of_depot (.inl hd))

theorem replaceEnd_tyOK {nw : Network} {t nt : Tour} {d vt : Nat} (h : t.replaceEndDepot nw d = .ok nt)
    (ht : TyOK nw vt t.nodes) : TyOK nw vt nt.nodes := by
  obtain ⟨hn, -, hd⟩ := C05.replaceEndDepot_nodes h
  rw [hn]
  exact tyOK_set ht (not_service_of_depot (.inr hd))

/-- `add_suitable_start_and_end_depot_to_path` changes or adds the first and the last node only -/
theorem addSuitableDepots_inner {nw : Network} {s : Schedule} {vt : Nat} {path nodes : List Nat}
    (hd : addSuitableDepots nw s vt path = .ok nodes) (i n : Nat) (hi : nodes[i]? = some n) :
    i = 0 ∨ i = nodes.length - 1 ∨ n ∈ path := by
  obtain ⟨first, last, -, -, ⟨-, -, rfl⟩ | ⟨pre, suf, rfl, hpre, hsuf⟩⟩ := addSuitableDepots_ok hd
  · by_cases e0 : i = 0
    · exact Or.inl e0
    by_cases hl : (nw.node last).isDepot = true
    · rw [if_pos hl] at hi ⊢
      simp only [List.length_set] at hi ⊢
      by_cases e1 : i = path.length - 1
      · exact Or.inr (Or.inl e1)
      · rw [List.getElem?_set_ne (fun e => e1 e.symm), List.getElem?_set_ne (fun e => e0 e.symm)] at hi
        exact Or.inr (Or.inr (List.mem_of_getElem? hi))
    · rw [if_neg hl] at hi ⊢
      have hlt := (List.getElem?_eq_some_iff.mp hi).1
      simp only [List.length_append, List.length_set, List.length_cons, List.length_nil] at hlt ⊢
      by_cases e1 : i < path.length
      · rw [List.getElem?_append_left (by simpa using e1), List.getElem?_set_ne (fun e => e0 e.symm)] at hi
        exact Or.inr (Or.inr (List.mem_of_getElem? hi))
      · exact Or.inr (Or.inl (by omega))
  · have hp : pre.length ≤ 1 := by
      rcases hpre with ⟨-, -, rfl⟩ | ⟨-, _, -, rfl⟩
      · exact Nat.zero_le 1
      · exact Nat.le_refl 1
    have hs : suf.length ≤ 1 := by
      rcases hsuf with ⟨-, rfl⟩ | ⟨-, _, -, rfl⟩
      · exact Nat.zero_le 1
      · exact Nat.le_refl 1
    have hlt := (List.getElem?_eq_some_iff.mp hi).1
    simp only [List.length_append] at hlt ⊢
    by_cases h1 : i < pre.length
    · exact Or.inl (by omega)
    by_cases h2 : i < pre.length + path.length
    · rw [List.getElem?_append_left (by rw [List.length_append]; exact h2),
        List.getElem?_append_right (Nat.le_of_not_lt h1)] at hi
      exact Or.inr (Or.inr (List.mem_of_getElem? hi))
    · exact Or.inr (Or.inl (by omega))

theorem new_tyOK {nw : Network} {s : Schedule} {vt : Nat} {path nodes : List Nat} {t : Tour}
    (hp : TyOK nw vt path) (hd : addSuitableDepots nw s vt path = .ok nodes) (hn : Tour.new nw nodes = .ok t) :
    TyOK nw vt t.nodes := by
  obtain ⟨f, l, hf, hl, hfs, hle, -, -, -, rfl⟩ := Tour.new_ok hn
  have hf := idxAt_inv hf
  have hl := idxAt_inv hl
  show TyOK nw vt nodes
  intro n hn'
  obtain ⟨i, hi⟩ := List.mem_iff_getElem?.mp hn'
  rcases addSuitableDepots_inner hd i n hi with e | e | e
  · subst e
    rw [hf] at hi
    cases hi
    exact compat_of_not_service (not_service_of_depot (.inl hfs))
  · subst e
    rw [hl] at hi
    cases hi
    exact compat_of_not_service (not_service_of_depot (.inr hle))
  · exact hp n e

theorem compat_ty {nw : Network} {s : Schedule} {p r : Veh} {a b : Nat} {c : Bool} {rvt : Nat} {pt : Tour}
    (h : checkReceiverTypeCompat nw s p r a b = .ok c) (hc : ¬ (!c) = true)
    (hr : s.typeOf? r = some rvt) (hpt : s.tourOf? p = some pt) :
    s.typeOf? p = some rvt ∨ ∃ path0, Tour.subPath nw pt a b = .ok path0 ∧ TyOK nw rvt path0 := by
  obtain rfl : c = true := by simpa using hc
  rcases checkReceiverTypeCompat_ok h hr with hsame | ⟨pt', path0, _, hpt', hsub, hany, -, -⟩
  · exact Or.inl hsame
  rw [hpt] at hpt'
  cases hpt'
  exact Or.inr ⟨path0, hsub, tyOK_of_any hany⟩

theorem remove_eq_subPath {nw : Network} {t : Tour} {a b : Nat} {ot : Option Tour} {path path0 : List Nat}
    (hrem : Tour.remove nw t a b = .ok (ot, path)) (hsub : Tour.subPath nw t a b = .ok path0) : path = path0 := by
  obtain ⟨s, e, hs, he, _, _, hpath, _⟩ := remove_positions hrem
  obtain ⟨s0, e0, hs0, he0, -, -, hpath0⟩ := subPath_ok hsub
  rw [hs] at hs0; rw [he] at he0
  cases hs0; cases he0
  rw [hpath, hpath0]

theorem fit_prov_sub {nw : Network} {chk : Bool} {fuel : Nat} {pt rt : Tour} {rem : Option (List Nat)}
    {moved0 moved : List Nat} {newProv : Option Tour} {newRecv : Tour}
    (hloop : fitLoop nw chk fuel (some pt) rt rem moved0 = .ok (newProv, newRecv, moved)) :
    ∀ t, newProv = some t → ∀ n ∈ t.nodes, n ∈ pt.nodes := by
  obtain ⟨_, g⟩ := C10Lim.fitLoop_rule nw chk (fun prov _ _ => ∀ pc, prov = some pc → ∀ n ∈ pc.nodes, n ∈ pt.nodes)
    (fun _ _ _ _ hI => hI)
    (fun pc _ _ _ _ _ provCand _ _ _ hI _ _ hrem _ _ _ t' ht' n hn' =>
      hI pc rfl n ((remove_sub hrem).1 t' ht' n hn'))
    _ _ _ _ _ _ _ _ hloop (fun pc e n hn' => by cases e; exact hn')
  exact g

theorem fit_nodes {nw : Network} (hn : NetHyp nw) {chk real : Bool} {P : Tour → Prop} (hP : ProvPred nw real P)
    (hor : real = true ∨ chk = true) {pt rt : Tour} {path0 moved : List Nat} {fuel : Nat}
    {newProv : Option Tour} {newRecv : Tour} (hpt : P pt) (hrt : TourOK nw rt)
    (hcontig : Contig (some pt) (some path0))
    (hloop : fitLoop nw chk fuel (some pt) rt (some path0) [] = .ok (newProv, newRecv, moved)) :
    (∀ t, newProv = some t → ∀ n ∈ t.nodes, n ∈ pt.nodes) ∧
    (∀ n ∈ newRecv.nodes, n ∈ rt.nodes ∨ n ∈ path0) := by
  obtain ⟨_, _, _, _, _, g5⟩ := C10Lim.fitLoop_rule nw chk
    (fun prov recv rem => (∀ pc, prov = some pc → P pc) ∧ Contig prov rem ∧
      (∀ pa, rem = some pa → ∃ k, pa = path0.drop k) ∧ TourOK nw recv ∧
      (∀ n ∈ recv.nodes, n ∈ rt.nodes ∨ n ∈ path0))
    (fun prov recv path k hI => by
      obtain ⟨i1, i2, i3, i4, i5⟩ := hI
      refine ⟨i1, ?_, fun pa hpa => ?_, i4, i5⟩
      · intro p' pc' hp' hpc'
        have := pathTrusted_some hp'
        subst this
        obtain ⟨A, B, hAB⟩ := i2 path pc' rfl hpc'
        refine ⟨A ++ path.take (k + 1), B, ?_⟩
        rw [hAB]
        conv => lhs; rw [← List.take_append_drop (k + 1) path]
        simp only [List.append_assoc]
      · obtain ⟨k0, hk0⟩ := i3 path rfl
        exact C10Lim.drop_of_trusted hk0 hpa)
    (fun pc r0 path endPos start segEnd provCand pathIns r' rm hI hstart hend hrem hck _ hins => by
      obtain ⟨i1, i2, i3, i4, i5⟩ := hI
      have hPpc := i1 pc rfl
      obtain ⟨A, B, hAB⟩ := i2 path pc rfl rfl
      obtain ⟨hpi, hcand⟩ := remove_contig (hP.nodup pc hPpc) hAB hstart hend hrem
      have hfacts := hP.facts pc start segEnd provCand pathIns hPpc hrem
      have hpok := pathOK_of_facts hfacts hck hor
      have hr' := insert_tourOK nw hn.dt hn.wf r0 r' pathIns rm i4 hpok hins
      obtain ⟨k0, hk0⟩ := i3 path rfl
      refine ⟨fun t' ht' => ?_, ?_, fun pa hpa => C10Lim.drop_of_trusted hk0 hpa, hr', fun n hn' => ?_⟩
      · subst ht'
        exact hP.rem pc start segEnd t' pathIns hPpc hrem
      · intro p' t' hp'' ht'
        have := pathTrusted_some hp''
        subst this
        exact ⟨A, B, hcand t' ht'⟩
      · rcases insert_sub nw hn.dt hn.wf r0 r' pathIns rm i4 hins n hn' with h1 | h1
        · exact i5 n h1
        · right
          rw [hpi] at h1
          have := List.mem_of_mem_take h1
          rw [hk0] at this
          exact List.mem_of_mem_drop this)
    _ _ _ _ _ _ _ _ hloop
    ⟨fun pc e => by cases e; exact hpt, hcontig, fun pa e => by cases e; exact ⟨0, rfl⟩, hrt,
      fun n hn' => Or.inl hn'⟩
  exact ⟨fit_prov_sub hloop, g5⟩

theorem ty_update_one {nw : Network} {s : Schedule} {V' : List (Veh × Nat)} {T' : Tours} {v : Veh}
    (hinv : TypeInv nw s) (hV : ∀ w, w ≠ v → assocGet? V' w = assocGet? s.vehicles w)
    (hT : ∀ w, w ≠ v → assocGet? T' w = assocGet? s.tours w)
    (hv : ∀ t vt, assocGet? T' v = some t → assocGet? V' v = some vt → TyOK nw vt t.nodes) :
    ∀ w t vt, assocGet? T' w = some t → assocGet? V' w = some vt → TyOK nw vt t.nodes := by
  intro w t vt ht hvt
  by_cases e : w = v
  · subst e; exact hv t vt ht hvt
  · rw [hT w e] at ht; rw [hV w e] at hvt; exact hinv w t vt ht hvt

theorem empty_ty (nw : Network) : TypeInv nw (Schedule.empty nw) := by
  intro v t vt ht
  simp [Schedule.empty, assocGet?_nil] at ht

theorem spawn_ty {nw : Network} {s s' : Schedule} {vt : Nat} {path : List Nat} {v : Veh}
    (hinv : TypeInv nw s) (h : spawnVehicleForPath nw s vt path = .ok (s', v)) : TypeInv nw s' := by
  obtain ⟨r, rfl⟩ := spawnVehicleForPath_ok h
  refine ty_update_one (v := v) hinv (fun w hw => get_set_ne _ _ _ _ hw)
    (fun w hw => get_set_ne _ _ _ _ hw) (fun t vt' ht hvt' => ?_)
  rw [get_set_self] at ht hvt'
  cases ht
  cases hvt'
  exact new_tyOK (tyOK_of_any r.compat) r.nodes_eq r.tour_eq

theorem delete_ty {nw : Network} {s s' : Schedule} {v : Veh}
    (hinv : TypeInv nw s) (h : replaceVehicleByDummy nw s v = .ok s') : TypeInv nw s' := by
  obtain ⟨r, rfl⟩ := replaceVehicleByDummy_ok h
  refine ty_update_one (v := v) hinv (fun w hw => get_erase_ne _ _ _ hw)
    (fun w hw => get_erase_ne _ _ _ hw) (fun t vt' _ hvt' => ?_)
  rw [get_erase_self] at hvt'
  cases hvt'

theorem addPath_ty {nw : Network} (hn : NetHyp nw) {s s' : Schedule} {v : Veh} {path : List Nat}
    {rm : Option (List Nat)} (ho : ToursOK nw s.tours) (hinv : TypeInv nw s)
    (h : addPathToVehicleTour nw s v path = .ok (s', rm)) : TypeInv nw s' := by
  obtain ⟨r, rfl⟩ := addPathToVehicleTour_ok h
  refine ty_update_one (v := v) hinv (fun w _ => rfl) (fun w hw => get_set_ne _ _ _ _ hw) (fun t vt ht hvt => ?_)
  rw [get_set_self] at ht
  cases ht
  intro n hn'
  rcases insert_sub nw hn.dt hn.wf r.old _ path rm (ho v r.old r.old_eq) r.insert_eq n hn' with h1 | h1
  · exact hinv v r.old vt r.old_eq hvt n h1
  · exact tyOK_of_any (r.compat vt hvt) n h1

theorem rmSeg_ty {nw : Network} {s s' : Schedule} {v : Veh} {a b : Nat}
    (hi : ListInv s) (hd : DummyInv s) (hinv : TypeInv nw s)
    (h : removeSegment nw s v a b = .ok s') : TypeInv nw s' := by
  obtain ⟨tour, shrunk, _, hv', htour, hrem, h⟩ := removeSegment_ok h
  cases shrunk with
  | none => exact delete_ty hinv h
  | some newTour =>
    obtain ⟨r, rfl⟩ := h
    rw [(tourOf_vehicle hi hv').1] at htour
    refine ty_update_one (v := v) hinv (fun w _ => rfl) (utc_tours_ne r.tours_eq) (fun t vt ht hvt => ?_)
    have htours : r.tours = assocSet s.tours v newTour := C10U.utc_vehicle hi hd hv' r.tours_eq
    have ht' : assocGet? r.tours v = some t := ht
    rw [htours, get_set_self] at ht'
    cases ht'
    exact tyOK_sub (hinv v tour vt htour hvt) ((remove_sub hrem).1 newTour rfl)

theorem reassign_ty {nw : Network} {s : Schedule} {w' : Work} {p r : Veh} {newProv : Option Tour}
    {newRecv : Tour} {moved path0 : List Nat} {pt rt : Tour} {a b : Nat}
    (hi : ListInv s) (hd : DummyInv s) (hinv : TypeInv nw s)
    (hpt : s.tourOf? p = some pt) (hrt : s.tourOf? r = some rt)
    (hcompat : checkReceiverTypeCompat nw s p r a b = .ok true)
    (hsubp : ∀ path0', Tour.subPath nw pt a b = .ok path0' → path0' = path0)
    (hprov : ∀ t, newProv = some t → ∀ n ∈ t.nodes, n ∈ pt.nodes)
    (hrecv : s.isVehicle r = true → ∀ n ∈ newRecv.nodes, n ∈ rt.nodes ∨ n ∈ path0)
    (hpath : ∀ n ∈ path0, n ∈ pt.nodes)
    (hut : updateTours nw s (Work.ofSchedule s) (some p) newProv r newRecv moved = .ok w') :
    ∀ w t vt, assocGet? w'.tours w = some t → assocGet? w'.vehicles w = some vt → TyOK nw vt t.nodes := by
  have real : ∀ {x vt}, assocGet? s.vehicles x = some vt → s.isVehicle x = true ∧ s.isDummy x = false := by
    intro x vt hx
    have hxv : s.isVehicle x = true := Option.isSome_of_eq_some hx
    exact ⟨hxv, vehicle_not_dummy hi hd hxv⟩
  intro w t vt ht hvt
  have hvt0 := updateTours_typed hut hvt
  obtain ⟨hwv, hwd⟩ := real hvt0
  by_cases ewr : w = r
  · subst ewr
    rw [updateTours_recv hut hwd] at ht
    cases ht
    intro n hn
    rcases hrecv hwv n hn with h1 | h1
    · exact hinv w rt vt (tourOf_not_dummy hrt hwd) hvt0 n h1
    · rcases compat_ty hcompat Bool.false_ne_true (show s.typeOf? w = some vt from hvt0) hpt with hs | ⟨p0, hp0, hty⟩
      · -- the provider is a real vehicle of the same type
        exact hinv p pt vt (tourOf_not_dummy hpt (real hs).2) hs n (hpath n h1)
      · rw [hsubp p0 hp0] at hty
        exact hty n h1
  · by_cases ewp : w = p
    · subst ewp
      rw [(updateTours_prov hut ewr hwd hwv).1] at ht
      exact tyOK_sub (hinv w pt vt (tourOf_not_dummy hpt hwd) hvt0) (hprov t ht)
    · rw [updateTours_tours_ne hut w ewp ewr] at ht
      exact hinv w t vt ht hvt0

theorem fit_ty {nw : Network} (hn : NetHyp nw) {s s' : Schedule} {p r : Veh} {a b : Nat}
    (hi : ListInv s) (hd : DummyInv s) (ho : ToursOK nw s.tours) (hdo : DummiesOK nw s.dummyTours)
    (hinv : TypeInv nw s) (h : fitReassign nw s p r a b = .ok s') : TypeInv nw s' := by
  obtain ⟨x, rfl⟩ := fitReassign_ok h
  have hloop := x.loop_eq
  obtain ⟨hcontig, hpathsub⟩ := subPath_contig x.path_eq
  refine reassign_ty (path0 := x.path) hi hd hinv x.prov_eq x.recv_eq x.compat
    (fun p0 h0 => by rw [x.path_eq] at h0; exact (Except.ok.inj h0).symm) (fit_prov_sub hloop) ?_ hpathsub
    x.update_eq
  intro hrv
  have hrtok := ho r x.rt (tourOf_not_dummy x.recv_eq (vehicle_not_dummy hi hd hrv))
  by_cases hpd : s.isDummy p = true
  · have hptd := hdo p x.pt (tourOf_dummy hi hd x.prov_eq hpd)
    have hchk : (s.isDummy p && s.isVehicle r) = true := by simp [hpd, hrv]
    rw [hchk] at hloop
    exact (fit_nodes hn (provPred_dummy hn) (Or.inr rfl) hptd hrtok hcontig hloop).2
  · have hptok := ho p x.pt (tourOf_not_dummy x.prov_eq (Bool.eq_false_iff.mpr hpd))
    exact (fit_nodes hn (provPred_real hn) (Or.inl rfl) hptok hrtok hcontig hloop).2

theorem override_ty {nw : Network} (hn : NetHyp nw) {s s' : Schedule} {p r : Veh} {a b : Nat} {d : Option Veh}
    (hi : ListInv s) (hd : DummyInv s) (ho : ToursOK nw s.tours)
    (hinv : TypeInv nw s) (h : overrideReassign nw s p r a b = .ok (s', d)) : TypeInv nw s' := by
  obtain ⟨replaced, x, -, rfl⟩ := overrideReassign_ok h
  obtain ⟨hs1, hs2⟩ := remove_sub x.remove_eq
  refine reassign_ty (path0 := x.path) hi hd hinv x.prov_eq x.recv_eq x.compat
    (fun p0 h0 => (remove_eq_subPath x.remove_eq h0).symm) hs1 ?_ hs2 x.update_eq
  intro hrv
  have hrtok := ho r x.rt (tourOf_not_dummy x.recv_eq (vehicle_not_dummy hi hd hrv))
  exact insert_sub nw hn.dt hn.wf x.rt x.newRecv x.path replaced hrtok x.insert_eq

theorem dummySpawn_ty {nw : Network} {s s' : Schedule} {d : Veh} {vt : Nat} {v : Veh}
    (hinv : TypeInv nw s) (h : spawnToReplaceDummy nw s d vt = .ok (s', v)) : TypeInv nw s' := by
  obtain ⟨_, s1, -, -, hdel, hspawn⟩ := spawnToReplaceDummy_ok h
  refine spawn_ty ?_ hspawn
  obtain ⟨-, -, rfl⟩ := deleteDummy_ok hdel
  exact hinv

/-- per vehicle: the new tour is compatible with every type the old one was compatible with -/
def TySame (nw : Network) (T0 T : Tours) : Prop :=
  ∀ w t', assocGet? T w = some t' → ∃ t, assocGet? T0 w = some t ∧ ∀ vt, TyOK nw vt t.nodes → TyOK nw vt t'.nodes

theorem fold_ty (nw : Network) (s : Schedule) (F : Acc → Veh → R Acc)
    (hF : ∀ acc v acc', F acc v = .ok acc' →
      ∃ nt t, acc'.1 = assocSet acc.1 v nt ∧ s.tourOf? v = some t ∧ ∀ vt, TyOK nw vt t.nodes → TyOK nw vt nt.nodes) :
    ∀ (L : List Veh) (acc acc' : Acc), (∀ v ∈ L, (assocGet? s.tours v).isSome = true) →
      TySame nw s.tours acc.1 → L.foldlM F acc = .ok acc' → TySame nw s.tours acc'.1 := by
  intro L acc acc' hL
  refine foldlM_induct F (fun c => TySame nw s.tours c.1) L acc acc' (fun x hx c c' hH h1 => ?_)
  obtain ⟨nt, t, hset, ht, hh⟩ := hF c x c' h1
  intro w t' hw
  rw [hset, assocGet?_assocSet] at hw
  split at hw
  · rename_i e
    cases hw
    rw [e]
    exact ⟨t, tourOf_of_hasTour ht (hL x hx), hh⟩
  · exact hH w t' hw

theorem tySame_inv {nw : Network} {s : Schedule} {T' : Tours} (hinv : TypeInv nw s) (h : TySame nw s.tours T') :
    ∀ w t vt, assocGet? T' w = some t → assocGet? s.vehicles w = some vt → TyOK nw vt t.nodes := by
  intro w t' vt ht hvt
  obtain ⟨t, ht0, hh⟩ := h w t' ht
  exact hh vt (hinv w t vt ht0 hvt)

theorem tySame_refl (nw : Network) (T : Tours) : TySame nw T T :=
  fun _ t' h => ⟨t', h, fun _ hty => hty⟩

theorem improveTour_ty {nw : Network} {t nt : Tour} {vt0 : Nat} {u : DepotUsage}
    (h : improveDepotsOfTour nw t vt0 u = .ok nt) : ∀ vt, TyOK nw vt t.nodes → TyOK nw vt nt.nodes :=
  fun vt hty => improveDepotsOfTour_keeps (P := fun t' => TyOK nw vt t'.nodes) h hty
    (fun _ _ _ h0 h1 => replaceStart_tyOK h1 h0) (fun _ _ _ h0 h1 => replaceEnd_tyOK h1 h0)

theorem improve_ty {nw : Network} {s s' : Schedule} {vs : Option (List Veh)} (hi : ListInv s)
    (hinv : TypeInv nw s) (h : improveDepots nw s vs = .ok s') : TypeInv nw s' := by
  obtain ⟨_, _, _, _, _, _, -, hfold, -, rfl⟩ := improveDepots_ok h
  -- every vehicle the fold went through has a type, hence a tour
  have hL := foldlM_each (improveStep nw s) (fun v => (assocGet? s.tours v).isSome = true) (fun _ _ _ hs => by
    obtain ⟨r, -⟩ := improveStep_ok hs
    exact typed_hasTour hi r.type_eq) _ _ _ hfold
  refine tySame_inv (s := s) hinv (fold_ty nw s (improveStep nw s) (fun _ _ _ hs => ?_) _ _ _ hL
    (tySame_refl nw s.tours) hfold)
  obtain ⟨r, rfl⟩ := improveStep_ok hs
  exact ⟨r.nt, r.t, rfl, r.tour_eq, improveTour_ty r.improve_eq⟩

theorem endGreedy_ty {nw : Network} {s s' : Schedule} (hi : ListInv s)
    (hinv : TypeInv nw s) (h : reassignEndDepotsGreedily nw s = .ok s') : TypeInv nw s' := by
  obtain ⟨_, _, _, _, _, hfold, -, rfl⟩ := reassignEndDepotsGreedily_ok h
  refine tySame_inv (s := s) hinv (fold_ty nw s (greedyStep nw s) (fun _ _ _ hs => ?_) _ _ _
    (fun v hv => listed_hasTour hi hv) (tySame_refl nw s.tours) hfold)
  obtain ⟨r, rfl⟩ := greedyStep_ok hs
  exact ⟨r.nt, r.t, rfl, r.tour_eq, fun _ hty => replaceEnd_tyOK r.replace_eq hty⟩

theorem endConsistent_ty {nw : Network} {s s' : Schedule} (hi : ListInv s)
    (hinv : TypeInv nw s) (h : reassignEndDepotsConsistent nw s = .ok s') : TypeInv nw s' := by
  obtain ⟨_, _, _, _, _, hfold, -, rfl⟩ := reassignEndDepotsConsistent_ok h
  refine tySame_inv (s := s) hinv (fold_ty nw s (C05.endStep nw s) (fun _ _ _ hs => ?_) _ _ _
    (fun v hv => listed_hasTour hi hv) (tySame_refl nw s.tours) hfold)
  obtain ⟨r, rfl⟩ := C05.endStep_ok hs
  exact ⟨r.nt, r.t, rfl, r.tour_eq, fun _ hty => replaceEnd_tyOK r.replace_eq hty⟩

theorem recompute_ty {nw : Network} {s s' : Schedule} {vts : Option (List Nat)}
    (hinv : TypeInv nw s) (h : recomputeTransitionsFor nw s vts = .ok s') : TypeInv nw s' := by
  obtain ⟨_, _, -, rfl⟩ := recomputeTransitionsFor_ok h
  exact hinv

theorem types_step (nw : Network) (hn : NetHyp nw) (s : Schedule) (op : SOp) (r : OpResult)
    (hinv0 : C10Fit.Inv nw s) (hinv : TypeInv nw s) (h : applyOp nw s op = .ok r) : TypeInv nw r.sched := by
  obtain ⟨⟨hi, hd, ho⟩, hdo, _⟩ := hinv0
  exact applyOp_cases (motive := fun _ s' => TypeInv nw s')
    (empty_ty nw)
    (fun _ _ _ _ => spawn_ty hinv)
    (fun _ _ _ _ => dummySpawn_ty hinv)
    (fun _ _ => delete_ty hinv)
    (fun _ _ _ _ _ _ => addPath_ty hn ho hinv)
    (fun _ _ _ _ => rmSeg_ty hi hd hinv)
    (fun _ _ _ _ _ => fit_ty hn hi hd ho hdo hinv)
    (fun _ _ _ _ _ _ => override_ty hn hi hd ho hinv)
    (fun _ _ => improve_ty hi hinv)
    (fun _ => endGreedy_ty hi hinv)
    (fun _ _ => recompute_ty hinv)
    (fun _ => endConsistent_ty hi hinv)
    (fun _ _ _ _ _ _ _ => hinv)
    h

/-- **C10 / C01 (type clause), one step**: every public modification keeps real tours to service
    trips of the vehicle's type; follows from `types_step` -/
theorem C10_types_step (nw : Network) (hn : NetHyp nw) (s : Schedule) (op : SOp) (r : OpResult)
    (hinv0 : C10Fit.Inv nw s) (hinv : TypeInv nw s) (hargs : ArgsOKF op)
    (h : applyOp nw s op = .ok r) : TypeInv nw r.sched :=
  types_step nw hn s op r hinv0 hinv h

end RSSched.C10Ty
