/-
Props/C01: the output-monitor theorems of C01–C04 and the arithmetic of C07, which have no files of
their own. `C01_monitor_sound` … `C04_monitor_sound`: the output monitors `out1Diffs` … `out4Diffs`
mean the declarative statements of C01–C04 (soundness of what is evaluated on every returned JSON).
`C07_required_serves`, `C07_lb`: no formation within the limit leaves fewer passengers unserved than
the cover target does.
-/
import RSSched.Spec.Output
import RSSched.Props.C17
import RSSched.Props.C12
namespace RSSched.COut
open Spec

/-- C01, declaratively: each vehicle starts and ends at depots of the instance, has at least one
    activity, consecutive nodes satisfy the documented timing rule, served segments are of its type -/
def Out1 (nw : Network) (o : Output) : Prop :=
  ∀ v ∈ o.vehicles,
    v.startDepot < nw.depots.size ∧ v.endDepot < nw.depots.size ∧ itinerary v ≠ [] ∧
    (∀ i, i + 1 < (nodeSeq nw v).length →
      C17.ReachSpec nw (nw.node ((nodeSeq nw v).getD i 0)) (nw.node ((nodeSeq nw v).getD (i + 1) 0))) ∧
    (∀ a ∈ itinerary v, a.isMaint = false → (nw.node a.node).isService = true ∧ (nw.node a.node).vt = v.vt)

theorem C01_monitor_sound (nw : Network) (o : Output) (h : out1Diffs nw o = []) : Out1 nw o := by
  intro v hv
  have hv' := List.flatMap_eq_nil_iff.mp h v hv
  simp only [List.append_eq_nil_iff] at hv'
  obtain ⟨⟨⟨h1, h2⟩, h3⟩, h4⟩ := hv'
  have h1' := (ite_nil (by simp)).mp h1
  have h3' := (ite_nil (by simp)).mp h3
  have h4' := (ite_nil (by simp)).mp h4
  simp only [Bool.and_eq_true, decide_eq_true_eq] at h1'
  refine ⟨h1'.1, h1'.2, ?_, ?_, ?_⟩
  · intro he; simp [he] at h2
  · intro i hi
    exact (C17.C17_reach nw _ _).mp (C12.chain_step nw _ h3' i hi)
  · intro a ha hm
    have := List.all_eq_true.mp h4' a ha
    simp [hm] at this
    exact ⟨this.1, this.2⟩

/-- C02, declaratively (formation and track limits) -/
def Out2Formation (nw : Network) (o : Output) : Prop :=
  (∀ s ∈ o.segs, ∀ l, nw.maxFormationFor s.node = some l → s.formation.length ≤ l) ∧
  (∀ s ∈ o.slots, s.formation.length ≤ (nw.node s.node).tracks)

theorem C02_monitor_sound (nw : Network) (o : Output) (h : out2Diffs nw o = []) : Out2Formation nw o := by
  unfold out2Diffs at h
  simp only [List.append_eq_nil_iff] at h
  obtain ⟨⟨h1, h2⟩, _⟩ := h
  constructor
  · intro s hs l hl
    have := List.filterMap_eq_nil_iff.mp h1 s hs
    simp only [hl] at this
    split at this
    · assumption
    · cases this
  · intro s hs
    have := List.filterMap_eq_nil_iff.mp h2 s hs
    split at this
    · assumption
    · cases this

/-- C04: the monitor compares the four reported components with the independent evaluation -/
theorem C04_monitor_sound (nw : Network) (o : Output) (h : out4Diffs nw o = []) :
    (o.unserved, o.violation, o.vehicleCount, o.costs) = evalRef nw o := by
  unfold out4Diffs at h
  simp only [List.append_eq_nil_iff] at h
  obtain ⟨⟨⟨h1, h2⟩, h3⟩, h4⟩ := h
  have e1 := (ite_nil (by simp)).mp h1
  have e2 := (ite_nil (by simp)).mp h2
  have e3 := (ite_nil (by simp)).mp h3
  have e4 := (ite_nil (by simp)).mp h4
  simp only [beq_iff_eq] at e1 e2 e3 e4
  rw [e1, e2, e3, e4]

/-- C03 (completeness part), declaratively: the listed departure segments / maintenance slots
    are exactly the instance's, each once, with the instance's own fields -/
def Out3Complete (nw : Network) (o : Output) : Prop :=
  sortNat (o.segs.map (·.node)) = sortNat (nw.idxsWhere Node.isService) ∧
  sortNat (o.slots.map (·.node)) = sortNat (nw.idxsWhere Node.isMaint) ∧
  (∀ s ∈ o.segs, s.origin = (nw.node s.node).startLoc ∧ s.dest = (nw.node s.node).endLoc ∧
      s.dep = (nw.node s.node).startT ∧ s.arr = (nw.node s.node).endT ∧ s.vt = (nw.node s.node).vt)

theorem C03_monitor_sound (nw : Network) (o : Output) (h : out3Diffs nw o = []) : Out3Complete nw o := by
  unfold out3Diffs at h
  simp only [List.append_eq_nil_iff] at h
  obtain ⟨⟨⟨⟨⟨⟨⟨⟨⟨h1, h2⟩, h3⟩, _⟩, _⟩, _⟩, _⟩, _⟩, _⟩, _⟩ := h
  have e1 := (ite_nil (by simp)).mp h1
  have e2 := (ite_nil (by simp)).mp h2
  have e3 := (ite_nil (by simp)).mp h3
  refine ⟨by simpa using e1, by simpa using e2, ?_⟩
  intro s hs
  have := List.all_eq_true.mp e3 s hs
  simp only [Bool.and_eq_true, beq_iff_eq] at this
  obtain ⟨⟨⟨⟨⟨_, a⟩, b⟩, c⟩, d⟩, e⟩ := this
  exact ⟨a, b, c, d, e⟩

/-- unserved passengers of a trip served by `k` vehicles of its own type -/
def shortfall (pax seated cap seats k : Nat) : Nat := (pax - k * cap) + (seated - k * seats)

theorem shortfall_antitone (pax seated cap seats : Nat) {k k' : Nat} (h : k ≤ k') :
    shortfall pax seated cap seats k' ≤ shortfall pax seated cap seats k := by
  unfold shortfall
  have h1 : k * cap ≤ k' * cap := Nat.mul_le_mul_right _ h
  have h2 : k * seats ≤ k' * seats := Nat.mul_le_mul_right _ h
  omega

theorem divCeil_mul_ge (a b : Nat) (hb : 0 < b) : a ≤ Network.divCeil a b * b := by
  unfold Network.divCeil
  have := Nat.lt_mul_div_succ (a + b - 1) hb
  rw [Nat.mul_comm] at this
  rw [Nat.add_mul] at this
  omega

/-- the required number of vehicles leaves no passenger unserved -/
theorem C07_required_serves (pax seated cap seats : Nat) (hc : 0 < cap) (hs : 0 < seats) :
    shortfall pax seated cap seats (Nat.max (Network.divCeil pax cap) (Network.divCeil seated seats)) = 0 := by
  unfold shortfall
  have h1 := divCeil_mul_ge pax cap hc
  have h2 := divCeil_mul_ge seated seats hs
  have h3 : Network.divCeil pax cap * cap ≤ Nat.max (Network.divCeil pax cap) (Network.divCeil seated seats) * cap :=
    Nat.mul_le_mul_right _ (Nat.le_max_left _ _)
  have h4 : Network.divCeil seated seats * seats ≤ Nat.max (Network.divCeil pax cap) (Network.divCeil seated seats) * seats :=
    Nat.mul_le_mul_right _ (Nat.le_max_right _ _)
  omega

/-- **C07_lb**: no formation within the limit serves more than the cover target does -/
theorem C07_lb (pax seated cap seats : Nat) (hc : 0 < cap) (hs : 0 < seats) (limit : Option Nat) (k : Nat)
    (hk : ∀ l, limit = some l → k ≤ l) :
    shortfall pax seated cap seats
      (match limit with
       | some l => Nat.min (Nat.max (Network.divCeil pax cap) (Network.divCeil seated seats)) l
       | none => Nat.max (Network.divCeil pax cap) (Network.divCeil seated seats))
    ≤ shortfall pax seated cap seats k := by
  cases limit with
  | none => simp [C07_required_serves pax seated cap seats hc hs]
  | some l =>
    simp only
    by_cases h : Nat.max (Network.divCeil pax cap) (Network.divCeil seated seats) ≤ l
    · have e : Nat.min (Nat.max (Network.divCeil pax cap) (Network.divCeil seated seats)) l
          = Nat.max (Network.divCeil pax cap) (Network.divCeil seated seats) := Nat.min_eq_left h
      rw [e, C07_required_serves pax seated cap seats hc hs]; omega
    · have e : Nat.min (Nat.max (Network.divCeil pax cap) (Network.divCeil seated seats)) l = l :=
        Nat.min_eq_right (by omega)
      rw [e]
      exact shortfall_antitone pax seated cap seats (hk l rfl)

example : shortfall 25 0 10 10 3 = 0 ∧ shortfall 25 0 10 10 2 = 5 := by decide

end RSSched.COut
