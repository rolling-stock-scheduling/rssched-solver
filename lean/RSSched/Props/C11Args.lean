/-
Props/C11Args: a predicate that every public modification keeps under the argument conditions of the
every-history theorems (`StepInv0`, `StepInv`) holds for every candidate of the neighbourhood, for the
search result and at the stages of the modelled pipeline, because the swaps are runs of public
modifications that meet these conditions as long as nothing that has a tour carries the next dummy id
(Props/C11Swaps). The instance is `InvF`: formation membership and valid dummy tours (Props/C10Fit)
together with "dummy ids are below the id counter".
-/
import RSSched.Props.C10Fit
import RSSched.Props.C16Pipeline
namespace RSSched.C11A
open Schedule Spec C13 C10F C10Fit C11S Swaps

def KeysLt (T : Tours) (c : Nat) : Prop := ∀ d, (assocGet? T d).isSome = true → d.idx < c

def DFresh (s : Schedule) : Prop := KeysLt s.dummyTours s.counter

theorem klt_mono {T : Tours} {c c' : Nat} (h : KeysLt T c) (hc : c ≤ c') : KeysLt T c' :=
  fun d hd => Nat.lt_of_lt_of_le (h d hd) hc

theorem parkDummy_klt {nw : Network} {T : Tours} {ids : List Veh} {c : Nat} {path : List Nat} (h : KeysLt T c) :
    KeysLt (parkDummy nw T ids c path).1 (parkDummy nw T ids c path).2.2.1 :=
  parkDummy_keeps (Q := KeysLt) h (fun _ _ => forall_keys_assocSet (klt_mono h (Nat.le_succ c)) (Nat.lt_succ_self c))

theorem utc_klt {s : Schedule} {tours dummyTours : Tours} {costs : Nat} {v : Veh} {t : Tour}
    {r : Tours × Tours × Nat} {c : Nat} (hs : KeysLt s.dummyTours c) (hd : KeysLt dummyTours c)
    (h : updateTourAndCosts s tours dummyTours costs v t = .ok r) : KeysLt r.2.1 c := by
  rcases updateTourAndCosts_ok h with ⟨hdum, rfl⟩ | ⟨_, _, _, _, rfl⟩
  · exact forall_keys_assocSet hd (hs v hdum)
  · exact hd

theorem updateTours_klt {nw : Network} {s : Schedule} {w' : Work} {p : Veh} {newProv : Option Tour}
    {receiver : Veh} {newRecv : Tour} {moved : List Nat} (hd : DFresh s)
    (h : updateTours nw s (Work.ofSchedule s) (some p) newProv receiver newRecv moved = .ok w') :
    KeysLt w'.dummyTours s.counter := by
  obtain ⟨w0, _, _, _, _, _, _, _, hprov, -, hutc, -, -, rfl⟩ := updateTours_ok h
  have h0 : KeysLt w0.dummyTours s.counter := by
    cases hprov with
    | shrunk hp => exact utc_klt hd hd hp
    | dummyGone => exact forall_keys_assocErase hd
    | vehicleGone => exact hd
    | absent => exact hd
  exact utc_klt hd h0 hutc

theorem spawn_fresh {nw : Network} {s s' : Schedule} {vt : Nat} {path : List Nat} {v : Veh}
    (hd : DFresh s) (h : spawnVehicleForPath nw s vt path = .ok (s', v)) : DFresh s' := by
  obtain ⟨r, rfl⟩ := spawnVehicleForPath_ok h
  exact klt_mono hd (Nat.le_succ _)

theorem delete_fresh {nw : Network} {s s' : Schedule} {v : Veh}
    (hd : DFresh s) (h : replaceVehicleByDummy nw s v = .ok s') : DFresh s' := by
  obtain ⟨r, rfl⟩ := replaceVehicleByDummy_ok h
  exact parkDummy_klt hd

theorem dummySpawn_fresh {nw : Network} {s s' : Schedule} {d : Veh} {vt : Nat} {v : Veh}
    (hd : DFresh s) (h : spawnToReplaceDummy nw s d vt = .ok (s', v)) : DFresh s' := by
  obtain ⟨_, s1, -, -, hdel, hspawn⟩ := spawnToReplaceDummy_ok h
  obtain ⟨-, -, rfl⟩ := deleteDummy_ok hdel
  refine spawn_fresh ?_ hspawn
  exact forall_keys_assocErase hd

theorem addPath_fresh {nw : Network} {s s' : Schedule} {v : Veh} {path : List Nat} {rm : Option (List Nat)}
    (hd : DFresh s) (h : addPathToVehicleTour nw s v path = .ok (s', rm)) : DFresh s' := by
  obtain ⟨r, rfl⟩ := addPathToVehicleTour_ok h
  exact hd

theorem rmSeg_fresh {nw : Network} {s s' : Schedule} {v : Veh} {a b : Nat}
    (hd : DFresh s) (h : removeSegment nw s v a b = .ok s') : DFresh s' := by
  obtain ⟨_, shrunk, _, -, -, -, h⟩ := removeSegment_ok h
  cases shrunk with
  | none => exact delete_fresh hd h
  | some newTour =>
    obtain ⟨r, rfl⟩ := h
    exact parkDummy_klt (utc_klt hd hd r.tours_eq)

theorem fit_fresh {nw : Network} {s s' : Schedule} {p r : Veh} {a b : Nat}
    (hd : DFresh s) (h : fitReassign nw s p r a b = .ok s') : DFresh s' := by
  obtain ⟨x, rfl⟩ := fitReassign_ok h
  exact (updateTours_klt hd x.update_eq : KeysLt x.w.dummyTours s.counter)

theorem override_fresh {nw : Network} {s s' : Schedule} {p r : Veh} {a b : Nat} {d : Option Veh}
    (hd : DFresh s) (h : overrideReassign nw s p r a b = .ok (s', d)) : DFresh s' := by
  obtain ⟨replaced, x, -, rfl⟩ := overrideReassign_ok h
  have hw' := updateTours_klt hd x.update_eq
  cases replaced with
  | none => exact hw'
  | some np => exact parkDummy_klt hw'

theorem depotOnly_fresh {s s' : Schedule} (hd : DFresh s) (h : DepotOnly s s') : DFresh s' := by
  obtain ⟨_, _, _, _, _, rfl⟩ := h
  exact hd

theorem empty_fresh (nw : Network) : DFresh (Schedule.empty nw) := by
  intro d hd
  simp [Schedule.empty, assocGet?_nil] at hd

theorem fresh_step (nw : Network) (s : Schedule) (op : SOp) (r : OpResult)
    (hd : DFresh s) (h : applyOp nw s op = .ok r) : DFresh r.sched :=
  applyOp_cases (motive := fun _ s' => DFresh s')
    (empty_fresh nw)
    (fun _ _ _ _ => spawn_fresh hd)
    (fun _ _ _ _ => dummySpawn_fresh hd)
    (fun _ _ => delete_fresh hd)
    (fun _ _ _ _ _ _ => addPath_fresh hd)
    (fun _ _ _ _ => rmSeg_fresh hd)
    (fun _ _ _ _ _ => fit_fresh hd)
    (fun _ _ _ _ _ _ => override_fresh hd)
    (fun _ _ hs => depotOnly_fresh hd (improveDepots_depotOnly hs))
    (fun _ hs => depotOnly_fresh hd (reassignEndDepotsGreedily_depotOnly hs))
    (fun _ _ hs => depotOnly_fresh hd (recomputeTransitionsFor_depotOnly hs))
    (fun _ hs => depotOnly_fresh hd (reassignEndDepotsConsistent_depotOnly hs))
    (fun _ _ _ _ _ _ _ => hd)
    h

structure InvF (nw : Network) (s : Schedule) : Prop where
  inv : C10Fit.Inv nw s
  fresh : DFresh s

theorem invF_step (nw : Network) (hn : NetHyp nw) (s : Schedule) (op : SOp) (r : OpResult)
    (hinv : InvF nw s) (hargs : ArgsOKF op) (h : applyOp nw s op = .ok r) : InvF nw r.sched :=
  ⟨C10_forms_step nw hn s op r hinv.inv hargs h, fresh_step nw s op r hinv.fresh h⟩

theorem tour_ne_fresh {nw : Network} {s : Schedule} (hinv : InvF nw s) {p : Veh} {pt : Tour}
    (h : s.tourOf? p = some pt) : p ≠ Veh.dum s.counter := by
  intro e
  by_cases hdm : s.isDummy p = true
  · have := hinv.fresh p (by unfold Schedule.isDummy at hdm; exact hdm)
    rw [e] at this; simp [Veh.dum] at this
  · have hget := tourOf_not_dummy h (by simpa using hdm)
    have := (hinv.inv.tinv.listing.fresh p (by show (assocGet? s.tours p).isSome = true; simp [hget])).1
    rw [e] at this; simp [Veh.dum] at this

/-- `fresh`: nothing that has a tour carries the next dummy id, so the dummy a `PathExchange` parks is
    never its own provider -/
structure StepInv0 (nw : Network) (J : Schedule → Prop) : Prop where
  step : ∀ s op r, J s → ArgsOKF op → applyOp nw s op = .ok r → J r.sched
  fresh : ∀ s p pt, J s → s.tourOf? p = some pt → p ≠ Veh.dum s.counter
  empty : J (Schedule.empty nw)

/-- … and `J` does not depend on the rotation cycles: it is kept when any transitions with distinct
    type keys are stored (`set_next_day_transitions`) -/
structure StepInv (nw : Network) (J : Schedule → Prop) : Prop extends StepInv0 nw J where
  setT : ∀ s trans, (trans.map (·.1)).Nodup → J s → J (setNextDayTransitions s trans)

theorem StepInv0.closed {nw : Network} {J : Schedule → Prop} (hJ : StepInv0 nw J) : RunClosed nw J :=
  fun s c hinv ⟨ops, e, ha⟩ =>
    runOps_induct hJ.step ops s c hinv (ha (fun p pt => hJ.fresh s p pt hinv)) e

/-! The lemmas below hold of every `StepInv0` predicate. -/

theorem invF_hitchHiking {nw : Network} {J : Schedule → Prop} (hJ : StepInv0 nw J) {s c : Schedule}
    {node : Nat} {v : Veh} (hinv : J s) (h : hitchHiking nw s node v = .ok c) : J c :=
  hJ.closed s c hinv (hitchHiking_runs h)

theorem invF_spawnForMaintenance {nw : Network} {J : Schedule → Prop} (hJ : StepInv0 nw J) {s c : Schedule}
    {slot : Nat} {v : Veh} (hinv : J s) (h : spawnForMaintenance nw s slot v = .ok c) : J c :=
  hJ.closed s c hinv (spawnForMaintenance_runs h)

theorem invF_pathExchange {nw : Network} {J : Schedule → Prop} (hJ : StepInv0 nw J) {s c : Schedule}
    {a b : Nat} {p r : Veh} (hinv : J s) (hne : p ≠ r) (h : pathExchange nw s a b p r = .ok c) : J c :=
  hJ.closed s c hinv ((pathExchange_runs h).mono (fun hs => ⟨hne, hs⟩))

theorem neighbors_invF {nw : Network} {J : Schedule → Prop} (hJ : StepInv0 nw J) {limit threshold : Option Nat}
    {s : Schedule} {last : SwapInfo} {cands : List Candidate} (hinv : J s) (h : neighborsOf nw limit threshold s last = .ok cands) :
    ∀ c ∈ cands, J c.sched :=
  fun c hc => hJ.closed s c.sched hinv (neighbors_runs h c hc)

/-- **C11 / C03 / C10 at search level**: `J` passes from the start of the local search to its result;
    for `InvF` it is formation membership, valid real and dummy tours and the listing -/
theorem search_invF (nw : Network) {J : Schedule → Prop} (hJ : StepInv0 nw J) (limit threshold : Option Nat) :
    ∀ (fuel : Nat) (s : Schedule), J s →
    J (searchFuel Schedule.objective (Solve.nbrs nw limit threshold) fuel s).1 :=
  search_closed hJ.closed limit threshold

theorem solve_inv0 {nw : Network} {J : Schedule → Prop} (hJ : StepInv0 nw J) (o : Solve.Oracle)
    (hoptJ : ∀ s, J s → J (setNextDayTransitions s (o.optimise s))) (tr : Solve.Trace)
    (h : Solve.solve nw o = .ok tr) : J tr.start ∧ J tr.afterSearch ∧ J tr.final := by
  obtain ⟨_, i2, i3, _, i5⟩ := C16P.solve_closed hJ.closed hJ.empty hoptJ h
  exact ⟨i2, i3, i5⟩

theorem solve_inv {nw : Network} {J : Schedule → Prop} (hJ : StepInv nw J) (o : Solve.Oracle)
    (hopt : ∀ s, ((o.optimise s).map (·.1)).Nodup) (tr : Solve.Trace) (h : Solve.solve nw o = .ok tr) :
    J tr.start ∧ J tr.afterSearch ∧ J tr.final :=
  solve_inv0 hJ.toStepInv0 o (fun s hs => hJ.setT s _ (hopt s) hs) tr h

theorem stepInv_invF {nw : Network} (hn : NetHyp nw) : StepInv nw (InvF nw) where
  step := fun s op r hinv hargs h => invF_step nw hn s op r hinv hargs h
  fresh := fun _ _ _ hinv hpt => tour_ne_fresh hinv hpt
  setT := fun _ _ _ h => ⟨⟨⟨h.inv.tinv.listing, h.inv.tinv.dummies, h.inv.tinv.tours⟩, h.inv.dok, h.inv.forms⟩, h.fresh⟩
  empty := ⟨empty_inv nw, empty_fresh nw⟩

/-- **C03 / C10 at pipeline level**: whatever the network satisfying the decidable hypotheses, the
    decoded flow, the number of local-search steps and the transition optimiser, if the modelled
    `solve_instance` returns, then in the start schedule, the local-search result and the returned
    schedule every vehicle is listed at most once per formation and exactly on the activities of its
    own tour, every real tour is a connectable depot-to-depot chain, every dummy tour a non-empty
    time-ordered list of activities -/
theorem C03_pipeline_membership (nw : Network) (hn : NetHyp nw) (o : Solve.Oracle)
    (hopt : ∀ s, ((o.optimise s).map (·.1)).Nodup) (tr : Solve.Trace) (h : Solve.solve nw o = .ok tr) :
    InvF nw tr.start ∧ InvF nw tr.afterSearch ∧ InvF nw tr.final ∧
    ∀ n, (formOf tr.final.formations n).Nodup ∧
      ∀ v, v ∈ formOf tr.final.formations n ↔
        ∃ t, assocGet? tr.final.tours v = some t ∧ n ∈ t.nodes ∧ (nw.node n).isDepot = false := by
  obtain ⟨i2, i3, i5⟩ := solve_inv (stepInv_invF hn) o hopt tr h
  exact ⟨i2, i3, i5, fun n => C10_formation_membership hn i5.inv n⟩

/-- every candidate of every neighbourhood satisfies the invariant (C11) -/
theorem C11_candidates_membership (nw : Network) (hn : NetHyp nw) {limit threshold : Option Nat} {s : Schedule}
    {last : SwapInfo} {cands : List Candidate} (hinv : InvF nw s)
    (h : neighborsOf nw limit threshold s last = .ok cands) : ∀ c ∈ cands, InvF nw c.sched :=
  neighbors_invF (stepInv_invF hn).toStepInv0 hinv h

end RSSched.C11A
