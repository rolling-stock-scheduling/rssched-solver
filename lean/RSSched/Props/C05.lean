/-
Props/C05: the returned schedule is cyclically repeatable.
* `cyclicPairs` (the cyclic successor relation of a rotation cycle) lists every member exactly
  once as predecessor and exactly once as successor;
* hence, if every vehicle ends in the depot where its successor starts, then for every depot as
  many vehicles of the cycle end there as start there, for cycles of any length, including
  one-vehicle cycles (self loop) and empty cycles.
-/
import RSSched.Spec.Output
namespace RSSched.C05
open Spec

theorem pairs_fst {α} : ∀ l : List α, (pairs l).map Prod.fst = l.dropLast
  | [] => rfl
  | [_] => rfl
  | a :: b :: rest => by
    simp only [pairs, List.map_cons, List.dropLast_cons_cons]
    rw [pairs_fst (b :: rest)]

theorem pairs_snd {α} : ∀ l : List α, (pairs l).map Prod.snd = l.tail
  | [] => rfl
  | [_] => rfl
  | a :: b :: rest => by
    simp only [pairs, List.map_cons, List.tail_cons]
    rw [pairs_snd (b :: rest)]; rfl

theorem cyclicPairs_fst {α} (l : List α) : (cyclicPairs l).map Prod.fst = l := by
  cases l with
  | nil => rfl
  | cons x xs =>
    simp only [cyclicPairs, List.map_append, pairs_fst, List.map_cons, List.map_nil]
    have h : (x :: xs) ≠ [] := by simp
    rw [List.getLast?_eq_some_getLast h]
    simpa using List.dropLast_concat_getLast h

theorem cyclicPairs_snd {α} (l : List α) : ((cyclicPairs l).map Prod.snd).Perm l := by
  cases l with
  | nil => exact List.Perm.refl _
  | cons x xs =>
    simp only [cyclicPairs, List.map_append, pairs_snd, List.map_cons, List.map_nil, List.tail_cons]
    exact List.perm_append_singleton x xs

/-- **C05 (balance)** of one cycle -/
theorem C05_balance {α} (cycle : List α) (startDepot endDepot : α → Nat)
    (h : ∀ p ∈ cyclicPairs cycle, endDepot p.1 = startDepot p.2) (d : Nat) :
    cycle.countP (fun v => endDepot v == d) = cycle.countP (fun v => startDepot v == d) := by
  have h1 : cycle.countP (fun v => endDepot v == d)
      = (cyclicPairs cycle).countP (fun p => endDepot p.1 == d) := by
    conv => lhs; rw [← cyclicPairs_fst cycle]
    rw [List.countP_map]; rfl
  have h2 : cycle.countP (fun v => startDepot v == d)
      = (cyclicPairs cycle).countP (fun p => startDepot p.2 == d) := by
    rw [← (cyclicPairs_snd cycle).countP_eq, List.countP_map]; rfl
  rw [h1, h2]
  apply List.countP_congr
  intro p hp
  simp [h p hp]

/-- the same over all cycles of a type -/
theorem C05_balance_type {α} (cycles : List (List α)) (startDepot endDepot : α → Nat)
    (h : ∀ c ∈ cycles, ∀ p ∈ cyclicPairs c, endDepot p.1 = startDepot p.2) (d : Nat) :
    (cycles.flatMap id).countP (fun v => endDepot v == d) = (cycles.flatMap id).countP (fun v => startDepot v == d) := by
  induction cycles with
  | nil => rfl
  | cons c cs ih =>
    simp only [List.flatMap_cons, id, List.countP_append]
    rw [C05_balance c startDepot endDepot (h c (by simp)) d, ih (fun c' hc' => h c' (by simp [hc']))]

/-- a one-vehicle cycle is its own successor; an empty cycle has no pair -/
example : cyclicPairs [7] = [(7, 7)] ∧ cyclicPairs ([] : List Nat) = [] ∧
    cyclicPairs [1, 2, 3] = [(1, 2), (2, 3), (3, 1)] := by decide

end RSSched.C05
