/-
Props/C15Batch: batches of transition updates that thread the "updated tours first" overlay, as the
schedule modifications do (`update_transitions_and_violation_fast`). One vehicle gets a new tour and,
in the same batch, another vehicle leaves the transition: the result is exact with respect to the
tours after the batch (the overlay); the removal must read the first vehicle's tour through the
overlay, not from the old tours.
-/
import RSSched.Props.C15Ops
namespace RSSched.C15

/-- **C15, update-then-remove batch** -/
theorem C15_update_remove_batch (nw : Network) (tr t1 t2 : Transition) (v1 v2 : Veh) (n1 : Tour) (old : Tours)
    (hc : Consistent nw (overlay [] old) tr) (hne : v1 ≠ v2)
    (h1 : Transition.updateVehicle nw tr v1 n1 [] old = .ok t1)
    (h2 : Transition.removeVehicle nw t1 v2 [(v1, n1)] old = .ok t2) :
    Consistent nw (overlay [(v1, n1)] old) t2 ∧ (∀ w, w ∈ members t2 ↔ w ∈ members tr ∧ w ≠ v2) := by
  obtain ⟨hc1, hcyc, _, _⟩ := update_consistent nw tr t1 v1 n1 [] old hc (by simp [assocGet?_nil]) h1
  have hfresh : assocGet? [(v1, n1)] v2 = none := by
    rw [assocGet?_cons]; simp [hne, assocGet?_nil]
  obtain ⟨hc2, hm, _⟩ := remove_consistent nw t1 t2 v2 [(v1, n1)] old hc1 hfresh h2
  refine ⟨hc2, fun w => ?_⟩
  rw [hm w, members_of_cycles hcyc]

end RSSched.C15
