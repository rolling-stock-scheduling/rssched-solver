/-
Props/C13Frame: frame of the depot-only modifications of the model (C13 "change exactly what they
document", C07 "no later stage gives up demand"): `improve_depots`, `reassign_end_depots_greedily`,
`reassign_end_depots_consistent_with_transitions`, `recompute_transitions_for` and
`set_next_day_transitions` leave the vehicle map, all train formations, the dummy tours, both
listings, the id counter and the unserved-passenger figures untouched. (For the end-depot alignment
`C05_reassign` additionally says what the tours become.)
-/
import RSSched.Props.C02Limits
namespace RSSched.C13
open RSSched Schedule

def frameOf (s : Schedule) : List (Veh × Nat) × List (Nat × List Veh) × Tours × List (Nat × List Veh) × List Veh × Nat × (Nat × Nat) :=
  (s.vehicles, s.formations, s.dummyTours, s.idsByType, s.dummyIds, s.counter, s.unserved)

theorem depotOnly_frame {s s' : Schedule} (h : DepotOnly s s') : frameOf s' = frameOf s := by
  obtain ⟨_, _, _, _, _, rfl⟩ := h
  rfl

theorem recompute_frame {nw : Network} {s s' : Schedule} {vts : Option (List Nat)}
    (h : recomputeTransitionsFor nw s vts = .ok s') : frameOf s' = frameOf s ∧ s'.tours = s.tours ∧
      s'.depotUsage = s.depotUsage ∧ s'.costs = s.costs := by
  obtain ⟨_, _, -, rfl⟩ := recomputeTransitionsFor_ok h
  exact ⟨rfl, rfl, rfl, rfl⟩

/-- **C13 (depot-only frame)** for the operation type of the differential runs -/
theorem C13_depot_only (nw : Network) (s : Schedule) (op : Spec.SOp) (r : OpResult)
    (hop : match op with
      | .improve _ | .endGreedy | .endConsistent | .recompute _ | .setTrans _ _ _ => True
      | _ => False)
    (h : applyOp nw s op = .ok r) : frameOf r.sched = frameOf s :=
  applyOp_cases
    (motive := fun op s' => (match op with
      | .improve _ | .endGreedy | .endConsistent | .recompute _ | .setTrans _ _ _ => True
      | _ => False) → frameOf s' = frameOf s)
    (fun hop => hop.elim)
    (fun _ _ _ _ _ hop => hop.elim)
    (fun _ _ _ _ _ hop => hop.elim)
    (fun _ _ _ hop => hop.elim)
    (fun _ _ _ _ _ _ _ hop => hop.elim)
    (fun _ _ _ _ _ hop => hop.elim)
    (fun _ _ _ _ _ _ hop => hop.elim)
    (fun _ _ _ _ _ _ _ hop => hop.elim)
    (fun _ _ hs _ => depotOnly_frame (improveDepots_depotOnly hs))
    (fun _ hs _ => depotOnly_frame (reassignEndDepotsGreedily_depotOnly hs))
    (fun _ _ hs _ => (recompute_frame hs).1)
    (fun _ hs _ => depotOnly_frame (reassignEndDepotsConsistent_depotOnly hs))
    (fun _ _ _ _ _ _ _ _ => rfl)
    h hop

end RSSched.C13
