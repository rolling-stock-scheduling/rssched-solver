/-
Props/C15: rotation-cycle bookkeeping is exact and its optimisation never worsens.

Proved here, for every transition and every argument:
* replacing one cycle and applying the counter delta to the totals keeps `total = Σ counters` and
  `violation = Σ max(0, counter)`;
* 3-opt reorders a cycle without losing or duplicating a vehicle;
* F7: the pinned `add_vehicle_at_the_end` leaves an occupied cycle listed as reusable.
That every operation keeps every counter exact is Props/C15Ops (invariant `Consistent`, implied by a
silent monitor `transitionDiffs`: Props/C15Sound); that the cycle optimisation returns a reordering
whose counter is exact and not larger is Props/C15Search. On the real code the monitor is evaluated
on the transitions of every run (scope `trans` and every schedule state of the other scopes).
-/
import RSSched.Spec.Schedule
import RSSched.Lemmas.Fault
import RSSched.Lemmas.Cyclic
namespace RSSched.C15
open Spec

def sumCounters (cs : List Cycle) : Int := sumInt (cs.map (·.counter))
def sumViolations (cs : List Cycle) : Int := sumInt (cs.map (fun c => posMax0 c.counter))

theorem sumInt_map_set {α} (f : α → Int) (l : List α) (i : Nat) (x : α) (h : i < l.length) :
    sumInt ((l.set i x).map f) = sumInt (l.map f) + f x - f l[i] := by
  induction l generalizing i with
  | nil => simp at h
  | cons a as ih =>
    cases i with
    | zero => simp [sumInt]; omega
    | succ k =>
      simp only [List.set_cons_succ, List.map_cons, sumInt, List.foldr_cons, List.getElem_cons_succ]
      have := ih k (by simpa using h)
      simp only [sumInt] at this
      omega

theorem C15_totals_set (cs : List Cycle) (i : Nat) (c : Cycle) (h : i < cs.length) :
    sumCounters (cs.set i c) = sumCounters cs + c.counter - cs[i].counter ∧
    sumViolations (cs.set i c) = sumViolations cs + posMax0 c.counter - posMax0 cs[i].counter :=
  ⟨sumInt_map_set _ cs i c h, sumInt_map_set _ cs i c h⟩

theorem totals_set {cs : List Cycle} {i : Nat} {oc : Cycle} (c : Cycle) (h : cs[i]? = some oc) :
    sumCounters (cs.set i c) = sumCounters cs + c.counter - oc.counter ∧
    sumViolations (cs.set i c) = sumViolations cs + posMax0 c.counter - posMax0 oc.counter := by
  obtain ⟨hlt, rfl⟩ := List.getElem_of_getElem? h
  exact C15_totals_set cs i c hlt

theorem replaceCycle_ok {tr tr' : Transition} {ci : Nat} {c : Cycle}
    (h : Transition.replaceCycle tr ci c = .ok tr') :
    ∃ oc, tr.cycles[ci]? = some oc ∧ tr' = { tr with
      cycles := tr.cycles.set ci c
      totalViolation := tr.totalViolation + posMax0 c.counter - posMax0 oc.counter
      totalCounter := tr.totalCounter + c.counter - oc.counter } := by
  unfold Transition.replaceCycle at h
  obtain ⟨oc, hoc, h⟩ := bind_ok h
  cases h
  exact ⟨oc, unwrapO_ok hoc, rfl⟩

/-- `replace_cycle` -/
theorem C15_replaceCycle_totals (tr : Transition) (ci : Nat) (c : Cycle) (tr' : Transition)
    (hv : tr.totalViolation = sumViolations tr.cycles) (hc : tr.totalCounter = sumCounters tr.cycles)
    (h : Transition.replaceCycle tr ci c = .ok tr') :
    tr'.totalViolation = sumViolations tr'.cycles ∧ tr'.totalCounter = sumCounters tr'.cycles ∧
    tr'.lookup = tr.lookup ∧ tr'.empty = tr.empty := by
  obtain ⟨oc, hoc, rfl⟩ := replaceCycle_ok h
  obtain ⟨h1, h2⟩ := totals_set c hoc
  exact ⟨by rw [h2, hv], by rw [h1, hc], rfl, rfl⟩

theorem C15_threeOpt_perm {α} (vs : List α) (i j k : Nat) (h1 : i < j) (h2 : j < k) (h3 : k < vs.length) :
    (vs.take (i + 1) ++ (vs.drop (j + 1)).take (k - j) ++ (vs.drop (i + 1)).take (j - i) ++ vs.drop (k + 1)).Perm vs :=
  Cyclic.threeOpt_perm vs (Nat.le_of_lt h1) (Nat.le_of_lt h2)

theorem threeOpt_ok {nw : Network} {c c' : Cycle} {i j k : Nat} {tours : Tours}
    (h : Transition.threeOpt nw c i j k tours = .ok c') :
    ∃ counter, Transition.threeOptCounter nw c i j k tours = .ok counter ∧ k < c.vehicles.length ∧
      c' = { vehicles := Transition.threeOptOrder c.vehicles i j k, counter := counter } := by
  unfold Transition.threeOpt at h
  split at h
  · cases h
  · rename_i counter hcnt
    split at h
    · rename_i hb
      cases h
      exact ⟨counter, hcnt, hb.2.2, rfl⟩
    · cases h

theorem C15_threeOpt_vehicles (nw : Network) (c c' : Cycle) (i j k : Nat) (tours : Tours)
    (h : Transition.threeOpt nw c i j k tours = .ok c') (h1 : i < j) (h2 : j < k) :
    c'.vehicles.Perm c.vehicles := by
  obtain ⟨_, _, h3, rfl⟩ := threeOpt_ok h
  exact C15_threeOpt_perm c.vehicles i j k h1 h2 h3

def f7Net : Network :=
  { nodes := #[
      { kind := .startDepot, idx := 0, startT := .earliest, endT := .earliest, startLoc := .station 0, endLoc := .station 0 },
      { kind := .endDepot, idx := 1, startT := .latest, endT := .latest, startLoc := .station 0, endLoc := .station 0 },
      { kind := .service, idx := 2, startT := .point 100, endT := .point 200, startLoc := .station 0, endLoc := .station 0, dist := 500 } ],
    vtypes := #[{ capacity := 10, seats := 10, maxForm := none }],
    depots := #[], nLocs := 1, dhDur := [(0, [(0, 0)])], dhDist := [(0, [(0, 0)])],
    forbidDH := false, shuntMin := 0, shuntDH := 0, maxDist := 0,
    cStaff := 0, cService := 0, cMaint := 0, cDH := 0, cIdle := 0, planning := 86400 }

def f7Tours : Tours := [(Veh.real 0, Tour.computing f7Net [0, 2, 1] false)]
def f7Start : Transition :=
  { cycles := [{ vehicles := [], counter := 0 }], totalViolation := 0, totalCounter := 0, lookup := [], empty := [0] }

def emptyOf (r : R Transition) : Option (List Nat) := match r with | .ok t => some t.empty | .error _ => none

/-- F7: the pinned code leaves the cycle a vehicle moved into listed as reusable -/
theorem F7_pinned_keeps_occupied_cycle_listed :
    emptyOf (Transition.addVehicleAtTheEnd f7Net true f7Start (Veh.real 0) 0 [] f7Tours) = some [0] ∧
    emptyOf (Transition.addVehicleAtTheEnd f7Net false f7Start (Veh.real 0) 0 [] f7Tours) = some [] := by
  decide +kernel

/-- C15 for `move_vehicle` in terms of the monitor. Not proved in this form; `move_consistent`
    (Props/C15Ops) is the same claim for the invariant `Consistent`. -/
def C15_statement : Prop :=
  ∀ (nw : Network) (tours : Tours) (vehicles : List Veh) (tr tr' : Transition) (v : Veh) (ci : Nat),
    transitionDiffs nw tours vehicles tr = [] →
    Transition.moveVehicle nw false tr v ci tours = .ok tr' →
    transitionDiffs nw tours vehicles tr' = []

end RSSched.C15
