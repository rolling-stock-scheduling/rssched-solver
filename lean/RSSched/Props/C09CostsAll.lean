/-
Props/C09CostsAll: the caches of the schedule through search and pipeline. `InvAll` bundles formation
membership with valid tours and exact unserved cache (`C09U.InvFU`), the cost cache (Props/C09Costs)
and the violation cache (Props/C09Sched); it is kept by every public modification, hence holds for
every candidate of the search and at every stage of the modelled pipeline.
-/
import RSSched.Props.C09Unserved
namespace RSSched.C09A
open Spec C02 C10L C09C C10F

/-- **C09 / C04 (cost cache), every history, unconditional**: in every schedule the model reaches
    from the empty schedule by public modifications with ANY arguments, the cached costs are
    Σ tour costs + staff term -/
theorem C09_cost_from_empty_all (nw : Network) (ops : List SOp) (s' : Schedule)
    (h : runOps nw (Schedule.empty nw) ops = some s') : s'.costs = sumCost s'.tours + staffTerm nw :=
  (C09_cost_reachable nw ops _ s' ⟨empty_listInv nw, empty_dk nw, empty_cost nw⟩ h).cost

structure InvAll (nw : Network) (s : Schedule) : Prop where
  fu : C09U.InvFU nw s
  cost : CostEq nw s
  viol : C09S.ViolExact s.transitions s.violation

theorem stepInv_all {nw : Network} (hn : NetHyp nw) : C11A.StepInv nw (InvAll nw) where
  step := fun s op r hinv hargs h =>
    ⟨(C09U.stepInv_invFU hn).step s op r hinv.fu hargs h,
     (C09_cost_step nw s op r ⟨hinv.fu.invF.inv.tinv.listing, hinv.fu.invF.inv.tinv.dummies, hinv.cost⟩ h).cost,
     C09S.C09_violation_step nw s op r hinv.viol h⟩
  fresh := fun _ _ _ hinv hpt => C11A.tour_ne_fresh hinv.fu.invF hpt
  setT := fun s trans hnd h => ⟨(C09U.stepInv_invFU hn).setT s trans hnd h.fu, h.cost, ⟨hnd, rfl⟩⟩
  empty := ⟨(C09U.stepInv_invFU hn).empty, empty_cost nw, C09S.empty_viol nw⟩

/-- **C04 / C09 / C03 / C10 at pipeline level, all caches**: if the modelled `solve_instance` returns
    (any decoded flow, any number of local-search steps, any transition optimiser with distinct type
    keys), then the start schedule, the local-search result and the returned schedule satisfy
    formation membership, valid real and dummy tours, exact unserved-passengers cache, cached costs =
    Σ tour costs + staff term, cached maintenance violation = Σ per-type totals -/
theorem C04_pipeline_caches (nw : Network) (hn : NetHyp nw) (o : Solve.Oracle)
    (hopt : ∀ s, ((o.optimise s).map (·.1)).Nodup) (tr : Solve.Trace) (h : Solve.solve nw o = .ok tr) :
    InvAll nw tr.start ∧ InvAll nw tr.afterSearch ∧ InvAll nw tr.final :=
  C11A.solve_inv (stepInv_all hn) o hopt tr h

/-- … and for every candidate the search evaluates -/
theorem C11_candidates_caches (nw : Network) (hn : NetHyp nw) {limit threshold : Option Nat} {s : Schedule}
    {last : SwapInfo} {cands : List Swaps.Candidate} (hinv : InvAll nw s)
    (h : Swaps.neighborsOf nw limit threshold s last = .ok cands) : ∀ c ∈ cands, InvAll nw c.sched :=
  C11A.neighbors_invF (stepInv_all hn).toStepInv0 hinv h

end RSSched.C09A
