/-
Props/C13Formation: the effect of `update_train_formation` on the train formations, for the model and
all arguments, in counting form: for every non-depot node `n` and every vehicle `v`

   #v in formation'(n) + [provider is a real vehicle = v] · occ(n)
     = #v in formation(n) + [receiver is a real vehicle = v] · occ(n)

where `occ(n)` is the number of times `n` occurs among the non-depot nodes handed in. (Where the
receiver stands — in the provider's place when both are real, at the tail otherwise — is what the
formation primitives of Props/C13 say; counting does not see it.)
-/
import RSSched.Props.C13
import RSSched.Props.C02Limits
namespace RSSched.C13
open RSSched Schedule Formation

def ind (b : Prop) [Decidable b] : Nat := if b then 1 else 0

theorem count_cons' (a v : Veh) (l : List Veh) : (a :: l).count v = l.count v + ind (a = v) := by
  rw [List.count_cons]; unfold ind
  by_cases e : a = v <;> simp [e]

theorem ind_le_count {f : List Veh} {p : Veh} (hp : p ∈ f) (v : Veh) : ind (p = v) ≤ f.count v := by
  unfold ind
  split
  · exact List.count_pos_iff.mpr (‹p = v› ▸ hp)
  · exact Nat.zero_le _

theorem count_set_eq (f : List Veh) (pos : Nat) (p r v : Veh) (hp : f[pos]? = some p) :
    (f.set pos r).count v + ind (p = v) = f.count v + ind (r = v) := by
  obtain ⟨hlt, rfl⟩ := List.getElem?_eq_some_iff.mp hp
  have hle := ind_le_count (List.getElem_mem hlt) v
  rw [List.count_set hlt]
  simp only [beq_iff_eq]
  unfold ind at hle ⊢
  omega

theorem count_erase_eq (f : List Veh) (p v : Veh) (hp : p ∈ f) :
    (f.erase p).count v + ind (p = v) = f.count v := by
  have hle := ind_le_count hp v
  rw [List.count_erase]
  simp only [beq_iff_eq]
  unfold ind at hle ⊢
  omega

theorem count_addAtTail (f : List Veh) (r v : Veh) : (addAtTail f r).count v = f.count v + ind (r = v) := by
  unfold addAtTail
  rw [List.count_append, count_cons']
  simp

/-- the vehicle behind an optional id, if it is a real vehicle (dummies are not listed in formations) -/
def realOf (s : Schedule) : Option Veh → Option Veh
  | some x => if s.isDummy x then none else some x
  | none => none

def indO (o : Option Veh) (v : Veh) : Nat :=
  match o with
  | some x => ind (x = v)
  | none => 0

theorem realOf_eq_filter (s : Schedule) (o : Option Veh) : realOf s o = o.filter (!s.isDummy ·) := by
  cases o with
  | none => rfl
  | some x =>
    show (if s.isDummy x then none else some x) = if !s.isDummy x then some x else none
    cases s.isDummy x <;> rfl

theorem vehicleReplacement_count {nw : Network} {s : Schedule} {forms : List (Nat × List Veh)}
    {provider receiver : Option Veh} {node : Nat} {f' : List Veh}
    (h : vehicleReplacement nw s forms provider receiver node = .ok f') :
    ∃ old, assocGet? forms node = some old ∧
      ∀ v, f'.count v + indO (realOf s provider) v = old.count v + indO (realOf s receiver) v := by
  obtain ⟨old, hold, h⟩ := vehicleReplacement_ok h
  refine ⟨old, hold, fun v => ?_⟩
  rw [realOf_eq_filter, realOf_eq_filter]
  split at h
  next r hr =>
    rw [hr]
    split at h
    next p hp =>
      rw [hp]
      obtain ⟨pos, hpos, rfl⟩ := C13_replace old p r f' h
      exact count_set_eq old pos p r v (getElem?_of_findIdx? hpos)
    next hp =>
      rw [hp, (addChecked_ok h).1]
      exact count_addAtTail old r v
  next hr =>
    rw [hr]
    split at h
    next p hp =>
      rw [hp, (remove_ok h).2]
      exact count_erase_eq old p v (remove_ok h).1
    next hp =>
      rw [hp, h]

def formOf (forms : List (Nat × List Veh)) (n : Nat) : List Veh := (assocGet? forms n).getD []

theorem formOf_set (forms : List (Nat × List Veh)) (node : Nat) (f' : List Veh) (n : Nat) :
    formOf (assocSet forms node f') n = if n = node then f' else formOf forms n := by
  unfold formOf; rw [assocGet?_assocSet]
  by_cases e : n = node <;> simp [e]

def occ (nw : Network) (nodes : List Nat) (n : Nat) : Nat :=
  (nodes.filter (fun x => !(nw.node x).isDepot)).count n

theorem occ_cons_depot (nw : Network) (x : Nat) (rest : List Nat) (n : Nat) (h : (nw.node x).isDepot = true) :
    occ nw (x :: rest) n = occ nw rest n := by
  unfold occ
  simp [h]

theorem occ_cons_act (nw : Network) (x : Nat) (rest : List Nat) (n : Nat) (h : (nw.node x).isDepot = false) :
    occ nw (x :: rest) n = occ nw rest n + (if x = n then 1 else 0) := by
  unfold occ
  simp only [List.filter_cons, h, Bool.not_false, ↓reduceIte, List.count_cons]
  by_cases e : x = n <;> simp [e]

/-- **effect of `update_train_formation`** in counting form -/
theorem updateTrainFormation_count (nw : Network) (s : Schedule) (typeOf : Veh → Option Nat)
    (provider receiver : Option Veh) : ∀ (nodes : List Nat) (forms forms' : List (Nat × List Veh)) (u u' : Nat × Nat),
    updateTrainFormation nw s typeOf forms u provider receiver nodes = .ok (forms', u') →
    ∀ n v, (formOf forms' n).count v + indO (realOf s provider) v * occ nw nodes n
      = (formOf forms n).count v + indO (realOf s receiver) v * occ nw nodes n
  | [], forms, forms', u, u', h, n, v => by
    cases h
    simp [occ]
  | node :: rest, forms, forms', u, u', h, n, v => by
    rcases updateTrainFormation_cons_ok h with ⟨hdep, h⟩ | ⟨hdep, f', u1, hvr, -, hrest⟩
    · rw [occ_cons_depot nw node rest n hdep]
      exact updateTrainFormation_count nw s typeOf provider receiver rest forms forms' u u' h n v
    · rw [occ_cons_act nw node rest n hdep]
      have ih := updateTrainFormation_count nw s typeOf provider receiver rest _ forms' u1 u' hrest n v
      obtain ⟨old, hold, hcnt⟩ := vehicleReplacement_count hvr
      rw [formOf_set] at ih
      by_cases e : node = n
      · subst e
        simp only [↓reduceIte] at ih ⊢
        have h1 := hcnt v
        have hof : formOf forms node = old := by unfold formOf; rw [hold]; rfl
        rw [hof]
        rw [Nat.mul_add, Nat.mul_add, Nat.mul_one, Nat.mul_one]
        omega
      · have e' : ¬ n = node := fun h => e h.symm
        simp only [e', ↓reduceIte, e] at ih ⊢
        simpa using ih

end RSSched.C13
