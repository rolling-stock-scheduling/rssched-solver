/-
Props/C12Insert: whenever the model of `Tour::insert_path` returns, its node list is "longest
reaching prefix ++ path ++ longest reached suffix" and the reported dropped nodes are exactly the
middle (the reference semantics `insertRef` of Spec/Tour.lean, which contains no binary search and
no index arithmetic); and the position computation itself never faults on valid tours.
-/
import RSSched.Props.C12
namespace RSSched.C12
open Network Tour Spec

/-- activities have positive duration -/
def ActPos (nw : Network) : Prop :=
  ∀ i, isActivity (nw.node i) = true → ExtTime.lt (nw.node i).startT (nw.node i).endT = true

theorem timeChain_of_timeChainB (nw : Network) (nodes : List Nat) (h : timeChainB nw nodes = true) :
    TimeChain nw nodes :=
  pairs_all_getD (fun p => ExtTime.le (nw.node p.1).endT (nw.node p.2).startT) 0 nodes h

theorem timeChain_of_valid (nw : Network) (hd : C17.DepotTimes nw) (t : Tour) (h : tourValidB nw t = true) :
    TimeChain nw t.nodes := by
  cases hdum : t.isDummy
  · exact timeChain_of_chainB nw hd _ (tourValidB_real h hdum).2.2.2.2.1
  · exact timeChain_of_timeChainB nw _ (tourValidB_dummy h hdum).2.2.2

/-- **the position computation never faults and returns the reference positions** -/
theorem C12_positions (nw : Network) (hd : C17.DepotTimes nw) (hw : NodesWF' nw) (t : Tour)
    (hc : TimeChain nw t.nodes) (hne : 0 < t.nodes.length) (first last : Nat) :
    getInsertPositions nw true t first last = .ok
      (if (nw.node first).isDepot then 0 else keepPrefixLen nw t.nodes first,
       if (nw.node last).isDepot then t.nodes.length else keepSuffixStart nw t.nodes last) := by
  unfold getInsertPositions
  obtain ⟨r1, h1, e1⟩ := lnr_spec nw hd hw t hc hne first
  obtain ⟨r2, h2, e2⟩ := lnrb_spec nw hd hw t hc hne last
  cases hf : (nw.node first).isDepot <;> cases hl : (nw.node last).isDepot <;>
    simp [h1, h2, bind, Except.bind, pure, Except.pure, e1] <;> exact e2

theorem lt_irrefl_ext (a : ExtTime) : ExtTime.lt a a = false := by
  cases a <;> simp [ExtTime.lt]

theorem not_lt_earliest (a : ExtTime) : ExtTime.lt a .earliest = false := by
  cases a <;> simp [ExtTime.lt, ExtTime.le]

theorem eq_earliest_of_le {a : ExtTime} (h : ExtTime.le a .earliest = true) : a = .earliest := by
  cases a
  · rfl
  · cases h
  · cases h

theorem start_of_reach {nw : Network} {a b : Nat} (h : nw.canReach a b = true)
    (ha : isActivity (nw.node a) = false) : (nw.node a).kind = .startDepot := by
  have he := (reach_facts h).2
  unfold isActivity Node.isService Node.isMaint at ha
  unfold Node.isEndDepot at he
  cases hk : (nw.node a).kind
  · rfl
  · rw [hk] at ha; cases ha
  · rw [hk] at ha; cases ha
  · rw [hk] at he; cases he

/-- **the replaced range is well-formed**: prefix length ≤ suffix start -/
theorem C12_positions_ordered (nw : Network) (hd : C17.DepotTimes nw) (hw : NodesWF' nw) (hp : ActPos nw)
    (nodes : List Nat) (hc : TimeChain nw nodes) (first last : Nat)
    (hfl : ExtTime.le (nw.node first).endT (nw.node last).endT = true)
    (hlast : isActivity (nw.node last) = true) :
    keepPrefixLen nw nodes first ≤ keepSuffixStart nw nodes last := by
  unfold keepPrefixLen keepSuffixStart
  refine Nat.le_of_not_lt fun hlt => ?_
  have hk := lastTrueLen_le (reachesAt nw nodes first) nodes.length
  have hk0 := Nat.lt_of_le_of_lt (Nat.zero_le _) hlt
  have r1 : nw.canReach _ first = true := lastTrueLen_true (reachesAt nw nodes first) nodes.length hk0
  have r2 : nw.canReach last _ = true :=
    firstTrueFrom_true (reachedAt nw nodes last) nodes.length 0 (by rw [Nat.zero_add]; exact Nat.lt_of_lt_of_le hlt hk)
  generalize lastTrueLen (reachesAt nw nodes first) nodes.length = k at *
  generalize firstTrueFrom (reachedAt nw nodes last) nodes.length 0 = m at *
  have t1 := C17.reach_end_le_start nw hd _ _ r1
  have t2 := C17.reach_end_le_start nw hd _ _ r2
  have t3 := monoStart_of_timeChain nw hw nodes hc m (k - 1) (Nat.le_sub_one_of_lt hlt)
    (Nat.lt_of_lt_of_le (Nat.sub_lt hk0 Nat.one_pos) hk)
  -- end(n[k-1]) ≤ start(first) ≤ end(first) ≤ end(last) ≤ start(n[m]) ≤ start(n[k-1]): n[k-1] has start = end
  have c1 := ExtTime.le_trans' t1 (ExtTime.le_trans' (hw first) (ExtTime.le_trans' hfl (ExtTime.le_trans' t2 t3)))
  have heq := C17.ExtTime.le_antisymm (hw (nodes.getD (k - 1) 0)) c1
  cases hact : isActivity (nw.node (nodes.getD (k - 1) 0))
  · -- a depot that can reach is a start depot; then everything collapses to `earliest`
    have c2 := ExtTime.le_trans' t2 (ExtTime.le_trans' t3 (hw _))
    rw [hd.start _ (start_of_reach r1 hact)] at c2
    have := hp last hlast
    rw [eq_earliest_of_le c2, not_lt_earliest] at this
    cases this
  · have := hp _ hact
    rw [heq, lt_irrefl_ext] at this
    cases this

theorem idxAt_headD {l : List Nat} {x : Nat} (h : idxAt l 0 = .ok x) : x = l.headD 0 := by
  rw [List.headD_eq_head?_getD, List.head?_eq_getElem?, idxAt_inv h]
  rfl

theorem idxAt_getLastD {l : List Nat} {x : Nat} (h : idxAt l (l.length - 1) = .ok x) : x = l.getLastD 0 := by
  rw [List.getLastD_eq_getLast?, List.getLast?_eq_getElem?, idxAt_inv h]
  rfl

/-- the body `stripFirst` and `stripLast` share -/
theorem strip_ok {nw : Network} {l q p : List Nat} {i : Nat} {site : String}
    (h : (match idxAt l i with
          | .error e => .error e
          | .ok x =>
            if (nw.node x).isDepot then
              match pathTrusted nw q with
              | some p => .ok p
              | none => .error (.panic site)
            else .ok l) = (.ok p : R (List Nat))) :
    ∃ x, idxAt l i = .ok x ∧ p = if (nw.node x).isDepot then q else l := by
  cases hx : idxAt l i with
  | error e => rw [hx] at h; cases h
  | ok x =>
    rw [hx] at h
    refine ⟨x, rfl, ?_⟩
    dsimp only at h
    split at h
    · rename_i hdep
      rw [if_pos hdep]
      cases hpt : pathTrusted nw q with
      | none => rw [hpt] at h; cases h
      | some r => rw [hpt] at h; cases h; exact pathTrusted_some hpt
    · rename_i hdep
      rw [if_neg hdep]; cases h; rfl

theorem strip_inv {nw : Network} {d : Bool} {path p1 p2 : List Nat} (h1 : stripFirst nw d path = .ok p1)
    (h2 : stripLast nw d p1 = .ok p2) : p2 = stripForDummy nw d path := by
  unfold stripForDummy
  unfold stripFirst at h1
  unfold stripLast at h2
  cases d
  · cases h1; cases h2; rfl
  · simp only [↓reduceIte] at h1 h2
    obtain ⟨f, hf, rfl⟩ := strip_ok h1
    obtain ⟨l, hl, rfl⟩ := strip_ok h2
    simp only [Bool.not_true, Bool.false_eq_true, ↓reduceIte]
    rw [← idxAt_headD hf, ← idxAt_getLastD hl, List.dropLast_eq_take]

theorem plan_inv (nw : Network) (hd : C17.DepotTimes nw) (hw : NodesWF' nw) (t : Tour) (path : List Nat)
    (hc : TimeChain nw t.nodes) (hne : 0 < t.nodes.length) (pl : InsertPlan)
    (h : insertPlan nw true t path = .ok pl) :
    pl.newNodes = stripForDummy nw t.isDummy path ∧
    pl.tourNodes = (insertRef nw t.isDummy t.nodes path).1 ∧
    pl.old = (insertRef nw t.isDummy t.nodes path).2 := by
  obtain ⟨p1, first, last, hp1, hp2, hfirst, hlast, hse, hold, htn⟩ := insertPlan_ok h
  rw [C12_positions nw hd hw t hc hne first last] at hse
  obtain ⟨hs, he⟩ := Prod.mk.inj (Except.ok.inj hse)
  simp only [insertRef, ← strip_inv hp1 hp2, ← idxAt_headD hfirst, ← idxAt_getLastD hlast, hs, he]
  exact ⟨trivial, htn, (C09.slice_inv hold).2.2⟩

/-- **C12 (insert)**: whenever the model of `Tour::insert_path` returns on a valid tour, the new node
    list and the reported dropped nodes are those of the reference semantics; connectable nodes,
    also back-to-back ones, are never dropped -/
theorem C12_insert (nw : Network) (hd : C17.DepotTimes nw) (hw : NodesWF' nw) (t : Tour) (path : List Nat)
    (hv : tourValidB nw t = true) (t' : Tour) (rm : Option (List Nat))
    (h : insertPath nw true t path = .ok (t', rm)) :
    insertSpecB nw t.isDummy t.nodes path t'.nodes rm = true := by
  have hc := timeChain_of_valid nw hd t hv
  have hne : 0 < t.nodes.length := by
    cases hdum : t.isDummy
    · exact Nat.lt_of_lt_of_le (by decide) (tourValidB_real hv hdum).1
    · exact List.length_pos_iff.mpr (tourValidB_dummy hv hdum).1
  obtain ⟨pl, _, hpl, _, rfl, rfl⟩ := insertPath_ok h
  obtain ⟨_, h2, h3⟩ := plan_inv nw hd hw t path hc hne pl hpl
  unfold insertSpecB
  simp only [h2, h3, beq_self_eq_true, Bool.true_and, pathTrusted_eq]

end RSSched.C12
