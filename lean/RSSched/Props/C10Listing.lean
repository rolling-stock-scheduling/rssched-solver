/-
Props/C10Listing: the listing clause of C10 for the model, every history. In every schedule reachable
by public modifications: vehicle and tour maps have the same duplicate-free keys, all of them real
vehicle ids below the id counter; the per-type id lists are duplicate-free, contain only vehicles of
that type, and contain every vehicle. (`ListInv`; preserved by four primitive transformations —
replace a present tour, let the id counter grow, add a vehicle with the next free id, delete a
vehicle — of which every public modification is a composition.)
-/
import RSSched.Props.C09Sched
namespace RSSched.C10L
open Schedule C02

structure Core where
  vehicles : List (Veh × Nat)
  tours : Tours
  ids : List (Nat × List Veh)
  counter : Nat

def coreOf (s : Schedule) : Core := ⟨s.vehicles, s.tours, s.idsByType, s.counter⟩

structure ListInvC (c : Core) : Prop where
  tourKeys : (c.tours.map (·.1)).Nodup
  vehKeys : (c.vehicles.map (·.1)).Nodup
  idKeys : (c.ids.map (·.1)).Nodup
  same : ∀ v, (assocGet? c.vehicles v).isSome = (assocGet? c.tours v).isSome
  fresh : ∀ v, (assocGet? c.tours v).isSome = true → v.dummy = false ∧ v.idx < c.counter
  typed : ∀ vt l, assocGet? c.ids vt = some l → ∀ v ∈ l, assocGet? c.vehicles v = some vt
  idsNodup : ∀ vt l, assocGet? c.ids vt = some l → l.Nodup
  complete : ∀ v vt, assocGet? c.vehicles v = some vt → ∃ l, assocGet? c.ids vt = some l ∧ v ∈ l

def ListInv (s : Schedule) : Prop := ListInvC (coreOf s)

theorem insertSorted_perm {α} (lt : α → α → Bool) (x : α) : ∀ l : List α, (insertSorted lt x l).Perm (x :: l)
  | [] => List.Perm.refl _
  | a :: as => by
    unfold insertSorted
    split
    · exact ((insertSorted_perm lt x as).cons a).trans (List.Perm.swap x a as)
    · exact List.Perm.refl _

theorem mem_insertSorted {α} (lt : α → α → Bool) (x y : α) (l : List α) : y ∈ insertSorted lt x l ↔ y = x ∨ y ∈ l :=
  (insertSorted_perm lt x l).mem_iff.trans List.mem_cons

theorem isSome_assocSet {κ ν : Type} [DecidableEq κ] (l : List (κ × ν)) (k k' : κ) (v : ν) :
    (assocGet? (assocSet l k v) k').isSome = (decide (k' = k) || (assocGet? l k').isSome) := by
  rw [assocGet?_assocSet]
  by_cases e : k' = k <;> simp [e]

theorem isSome_assocErase {κ ν : Type} [DecidableEq κ] (l : List (κ × ν)) (k k' : κ) :
    (assocGet? (assocErase l k) k').isSome = (!decide (k' = k) && (assocGet? l k').isSome) := by
  rw [assocGet?_assocErase]
  by_cases e : k' = k <;> simp [e]

theorem isSome_assocSet_present {κ ν : Type} [DecidableEq κ] {l : List (κ × ν)} {k : κ} (v : ν) (k' : κ)
    (hk : (assocGet? l k).isSome = true) : (assocGet? (assocSet l k v) k').isSome = (assocGet? l k').isSome := by
  rw [assocGet?_assocSet]
  by_cases e : k' = k
  · rw [if_pos e, e, hk]
    rfl
  · rw [if_neg e]

theorem assocGet?_assocSet_some {κ ν : Type} [DecidableEq κ] {l : List (κ × ν)} {k k' : κ} {v x : ν}
    (h : assocGet? (assocSet l k v) k' = some x) : (k' = k ∧ x = v) ∨ (k' ≠ k ∧ assocGet? l k' = some x) := by
  rw [assocGet?_assocSet] at h
  by_cases e : k' = k
  · rw [if_pos e] at h
    cases h
    exact Or.inl ⟨e, rfl⟩
  · rw [if_neg e] at h
    exact Or.inr ⟨e, h⟩

theorem mem_assocSet_of_mem {κ α : Type} [DecidableEq κ] {ids : List (κ × List α)} {k k' : κ}
    {l l' lnew : List α} {w : α} (hI : assocGet? ids k = some l) (hl' : assocGet? ids k' = some l')
    (hm : w ∈ l') (hnew : w ∈ l → w ∈ lnew) : ∃ m, assocGet? (assocSet ids k lnew) k' = some m ∧ w ∈ m := by
  rw [assocGet?_assocSet]
  by_cases e : k' = k
  · subst e
    rw [hI] at hl'
    cases hl'
    exact ⟨lnew, if_pos rfl, hnew hm⟩
  · exact ⟨l', (if_neg e).trans hl', hm⟩

theorem lic_setTour {c : Core} (h : ListInvC c) (v : Veh) (t : Tour) (hv : (assocGet? c.tours v).isSome = true) :
    ListInvC { c with tours := assocSet c.tours v t } :=
  ⟨assocSet_keys_nodup _ _ _ h.tourKeys, h.vehKeys, h.idKeys,
   fun w => (h.same w).trans (isSome_assocSet_present t w hv).symm,
   fun w hw => h.fresh w ((isSome_assocSet_present t w hv).symm.trans hw),
   h.typed, h.idsNodup, h.complete⟩

theorem lic_counter {c : Core} (h : ListInvC c) (n : Nat) (hn : c.counter ≤ n) : ListInvC { c with counter := n } :=
  ⟨h.tourKeys, h.vehKeys, h.idKeys, h.same, fun v hv => ⟨(h.fresh v hv).1, Nat.lt_of_lt_of_le (h.fresh v hv).2 hn⟩,
   h.typed, h.idsNodup, h.complete⟩

theorem lic_spawn {c : Core} (h : ListInvC c) (vt : Nat) (t : Tour) (l : List Veh)
    (hI : assocGet? c.ids vt = some l) :
    ListInvC { vehicles := assocSet c.vehicles (Veh.real c.counter) vt
               tours := assocSet c.tours (Veh.real c.counter) t
               ids := assocSet c.ids vt (insertSorted Veh.lt (Veh.real c.counter) l)
               counter := c.counter + 1 } := by
  -- the new id is not below the counter, so it has no tour and hence no type yet
  have hVn : assocGet? c.vehicles (Veh.real c.counter) = none := by
    apply Option.not_isSome_iff_eq_none.mp
    intro hs
    exact Nat.lt_irrefl _ (h.fresh _ ((h.same _).symm.trans hs)).2
  have hkeep : ∀ w vt', assocGet? c.vehicles w = some vt' →
      assocGet? (assocSet c.vehicles (Veh.real c.counter) vt) w = some vt' := by
    intro w vt' hw
    rw [assocGet?_assocSet, if_neg]
    · exact hw
    · intro e
      rw [e, hVn] at hw
      cases hw
  have hnew : assocGet? (assocSet c.vehicles (Veh.real c.counter) vt) (Veh.real c.counter) = some vt := by
    rw [assocGet?_assocSet, if_pos rfl]
  refine ⟨assocSet_keys_nodup _ _ _ h.tourKeys, assocSet_keys_nodup _ _ _ h.vehKeys,
    assocSet_keys_nodup _ _ _ h.idKeys, ?_, ?_, ?_, ?_, ?_⟩
  · intro w
    show (assocGet? (assocSet c.vehicles _ vt) w).isSome = (assocGet? (assocSet c.tours _ t) w).isSome
    rw [isSome_assocSet, isSome_assocSet, h.same w]
  · intro w hw
    have hw' : (assocGet? (assocSet c.tours (Veh.real c.counter) t) w).isSome = true := hw
    rw [isSome_assocSet] at hw'
    by_cases e : w = Veh.real c.counter
    · subst e
      exact ⟨rfl, Nat.lt_succ_self _⟩
    · simp only [e, decide_false, Bool.false_or] at hw'
      exact ⟨(h.fresh w hw').1, Nat.lt_succ_of_lt (h.fresh w hw').2⟩
  · intro vt' l' hl' w hw
    rcases assocGet?_assocSet_some hl' with ⟨rfl, rfl⟩ | ⟨-, hl''⟩
    · rcases (mem_insertSorted _ _ _ _).mp hw with rfl | hwl
      · exact hnew
      · exact hkeep w vt' (h.typed vt' l hI w hwl)
    · exact hkeep w vt' (h.typed vt' l' hl'' w hw)
  · intro vt' l' hl'
    rcases assocGet?_assocSet_some hl' with ⟨rfl, rfl⟩ | ⟨-, hl''⟩
    · have hvl : Veh.real c.counter ∉ l := fun hm => by
        have := h.typed vt' l hI _ hm
        rw [hVn] at this
        cases this
      exact (insertSorted_perm _ _ _).nodup_iff.mpr (List.nodup_cons.mpr ⟨hvl, h.idsNodup vt' l hI⟩)
    · exact h.idsNodup vt' l' hl''
  · intro w vt' hw
    have hw' : assocGet? (assocSet c.vehicles (Veh.real c.counter) vt) w = some vt' := hw
    rw [assocGet?_assocSet] at hw'
    by_cases e : w = Veh.real c.counter
    · rw [if_pos e] at hw'
      cases hw'
      exact ⟨_, by rw [assocGet?_assocSet, if_pos rfl], (mem_insertSorted _ _ _ _).mpr (Or.inl e)⟩
    · rw [if_neg e] at hw'
      obtain ⟨l', hl', hm⟩ := h.complete w vt' hw'
      exact mem_assocSet_of_mem hI hl' hm (fun hm => (mem_insertSorted _ _ _ _).mpr (Or.inr hm))

theorem lic_delete {c : Core} (h : ListInvC c) (v : Veh) (vt : Nat) (l : List Veh)
    (hV : assocGet? c.vehicles v = some vt) (hI : assocGet? c.ids vt = some l) :
    ListInvC { c with vehicles := assocErase c.vehicles v
                      tours := assocErase c.tours v
                      ids := assocSet c.ids vt (l.filter (· != v)) } := by
  have hkeep : ∀ w vt', w ≠ v → assocGet? c.vehicles w = some vt' →
      assocGet? (assocErase c.vehicles v) w = some vt' := by
    intro w vt' e hw
    rw [assocGet?_assocErase, if_neg e]
    exact hw
  refine ⟨assocErase_keys_nodup _ _ h.tourKeys, assocErase_keys_nodup _ _ h.vehKeys,
    assocSet_keys_nodup _ _ _ h.idKeys, ?_, ?_, ?_, ?_, ?_⟩
  · intro w
    show (assocGet? (assocErase c.vehicles v) w).isSome = (assocGet? (assocErase c.tours v) w).isSome
    rw [isSome_assocErase, isSome_assocErase, h.same w]
  · intro w hw
    have hw' : (assocGet? (assocErase c.tours v) w).isSome = true := hw
    rw [isSome_assocErase] at hw'
    exact h.fresh w (Bool.and_eq_true_iff.mp hw').2
  · intro vt' l' hl' w hw
    rcases assocGet?_assocSet_some hl' with ⟨rfl, rfl⟩ | ⟨e, hl''⟩
    · obtain ⟨hwl, hwv⟩ := List.mem_filter.mp hw
      exact hkeep w vt' (by simpa using hwv) (h.typed vt' l hI w hwl)
    · have hw' := h.typed vt' l' hl'' w hw
      refine hkeep w vt' (fun e2 => e ?_) hw'
      rw [e2, hV] at hw'
      cases hw'
      rfl
  · intro vt' l' hl'
    rcases assocGet?_assocSet_some hl' with ⟨rfl, rfl⟩ | ⟨-, hl''⟩
    · exact (h.idsNodup vt' l hI).sublist List.filter_sublist
    · exact h.idsNodup vt' l' hl''
  · intro w vt' hw
    have hw' : assocGet? (assocErase c.vehicles v) w = some vt' := hw
    rw [assocGet?_assocErase] at hw'
    by_cases e : w = v
    · rw [if_pos e] at hw'
      cases hw'
    · rw [if_neg e] at hw'
      obtain ⟨l', hl', hm⟩ := h.complete w vt' hw'
      exact mem_assocSet_of_mem hI hl' hm (fun hm => List.mem_filter.mpr ⟨hm, by simpa using e⟩)

theorem empty_listInv (nw : Network) : ListInv (Schedule.empty nw) := by
  have hnil : ∀ vt l, assocGet? (nw.typeIdxs.map (fun vt => (vt, ([] : List Veh)))) vt = some l → l = [] := by
    intro vt l hl
    obtain ⟨_, _, e⟩ := List.mem_map.mp (assocGet?_mem hl)
    cases e
    rfl
  refine ⟨List.nodup_nil, List.nodup_nil, ?_, fun _ => rfl, fun _ hv => (by cases hv), ?_, ?_,
    fun _ _ hv => (by cases hv)⟩
  · show ((nw.typeIdxs.map fun vt => (vt, _)).map (·.1)).Nodup
    rw [C09S.keys_map_const]
    exact List.nodup_range
  · intro vt l hl v hv
    rw [hnil vt l hl] at hv
    cases hv
  · intro vt l hl
    rw [hnil vt l hl]
    exact List.nodup_nil

theorem spawn_listInv {nw : Network} {s s' : Schedule} {vt : Nat} {path : List Nat} {v : Veh}
    (hi : ListInv s) (h : spawnVehicleForPath nw s vt path = .ok (s', v)) : ListInv s' := by
  obtain ⟨r, rfl⟩ := spawnVehicleForPath_ok h
  obtain ⟨l, hl, hids⟩ := idsInsert_ok r.ids_eq
  obtain rfl := r.veh_eq
  rw [hids]
  exact lic_spawn hi vt r.tour l hl

theorem delete_listInv {nw : Network} {s s' : Schedule} {v : Veh}
    (hi : ListInv s) (h : replaceVehicleByDummy nw s v = .ok s') : ListInv s' := by
  obtain ⟨r, rfl⟩ := replaceVehicleByDummy_ok h
  obtain ⟨l, hl, hids⟩ := idsRemove_ok r.ids_eq
  rw [hids]
  exact lic_counter (lic_delete hi v r.vt l r.type_eq hl) _ (le_parkDummy_counter ..)

def workCore (w : Work) (c : Nat) : Core := ⟨w.vehicles, w.tours, w.ids, c⟩

theorem updateTourAndCosts_core {s : Schedule} {c : Core} {dummyTours : Tours} {costs : Nat} {v : Veh} {t : Tour}
    {r : Tours × Tours × Nat} (hi : ListInvC c)
    (h : updateTourAndCosts s c.tours dummyTours costs v t = .ok r) : ListInvC { c with tours := r.1 } := by
  rcases updateTourAndCosts_ok h with ⟨-, rfl⟩ | ⟨-, old, hold, -, rfl⟩
  · exact hi
  · exact lic_setTour hi v t (Option.isSome_of_eq_some hold)

/-- `update_tours`: the provider's tour is replaced, or the provider deleted, or nothing happens to
    it; then the receiver's tour is replaced -/
theorem updateTours_listInv {nw : Network} {s : Schedule} {w' : Work} {p : Veh} {newProv : Option Tour}
    {receiver : Veh} {newRecv : Tour} {moved : List Nat} (hi : ListInv s)
    (h : updateTours nw s (Work.ofSchedule s) (some p) newProv receiver newRecv moved = .ok w') :
    ListInvC (workCore w' s.counter) := by
  obtain ⟨w0, _, _, _, _, _, _, _, hprov, -, hutc, -, -, rfl⟩ := updateTours_ok h
  have h0 : ListInvC (workCore w0 s.counter) := by
    cases hprov with
    | shrunk hutc0 => exact updateTourAndCosts_core (c := coreOf s) hi hutc0
    | dummyGone => exact hi
    | vehicleGone _ _ _ hpvt hids =>
      obtain ⟨l, hl, rfl⟩ := idsRemove_ok hids
      exact lic_delete (c := coreOf s) hi p _ l hpvt hl
    | absent => exact hi
  exact updateTourAndCosts_core (c := workCore w0 s.counter) h0 hutc

theorem fit_listInv {nw : Network} {s s' : Schedule} {p r : Veh} {a b : Nat}
    (hi : ListInv s) (h : fitReassign nw s p r a b = .ok s') : ListInv s' := by
  obtain ⟨x, rfl⟩ := fitReassign_ok h
  show ListInvC (workCore x.w s.counter)
  exact updateTours_listInv hi x.update_eq

theorem override_listInv {nw : Network} {s s' : Schedule} {p r : Veh} {a b : Nat} {d : Option Veh}
    (hi : ListInv s) (h : overrideReassign nw s p r a b = .ok (s', d)) : ListInv s' := by
  obtain ⟨replaced, x, -, rfl⟩ := overrideReassign_ok h
  refine lic_counter (updateTours_listInv hi x.update_eq) _ ?_
  cases replaced with
  | none => exact Nat.le_refl _
  | some np => exact le_parkDummy_counter ..

theorem dummySpawn_listInv {nw : Network} {s s' : Schedule} {d : Veh} {vt : Nat} {v : Veh}
    (hi : ListInv s) (h : spawnToReplaceDummy nw s d vt = .ok (s', v)) : ListInv s' := by
  obtain ⟨_, s1, -, -, hdel, hspawn⟩ := spawnToReplaceDummy_ok h
  exact spawn_listInv (s := s1) ((deleteDummy_ok hdel).2.2 ▸ hi) hspawn

theorem addPath_listInv {nw : Network} {s s' : Schedule} {v : Veh} {path : List Nat} {rm : Option (List Nat)}
    (hi : ListInv s) (h : addPathToVehicleTour nw s v path = .ok (s', rm)) : ListInv s' := by
  obtain ⟨r, rfl⟩ := addPathToVehicleTour_ok h
  exact lic_setTour (c := coreOf s) hi v r.newTour (Option.isSome_of_eq_some r.old_eq)

theorem rmSeg_listInv {nw : Network} {s s' : Schedule} {v : Veh} {a b : Nat}
    (hi : ListInv s) (h : removeSegment nw s v a b = .ok s') : ListInv s' := by
  obtain ⟨_, shrunk, _, -, -, -, h⟩ := removeSegment_ok h
  cases shrunk with
  | none => exact delete_listInv hi h
  | some newTour =>
    obtain ⟨r, rfl⟩ := h
    exact lic_counter (updateTourAndCosts_core (c := coreOf s) hi r.tours_eq) _ (le_parkDummy_counter ..)

/-- a fold over the schedule's own tours whose every step replaces the tour of a vehicle that has one -/
theorem foldTours_listInv {s : Schedule} (hi : ListInv s) (F : Acc → Veh → R Acc) (L : List Veh)
    (hF : ∀ acc v acc', v ∈ L → F acc v = .ok acc' →
      ∃ nt, acc'.1 = assocSet acc.1 v nt ∧ (assocGet? s.tours v).isSome = true)
    {u : DepotUsage} {costs : Nat} {r : Acc} (h : L.foldlM F (s.tours, u, costs) = .ok r) :
    ListInvC { coreOf s with tours := r.1 } := by
  refine foldlM_induct F (fun c => ListInvC { coreOf s with tours := c.1 }) L (s.tours, u, costs) r
    (fun v hv c c' hc hstep => ?_) hi h
  obtain ⟨nt, hset, hsome⟩ := hF c v c' hv hstep
  -- the vehicles are those of `s`, so by `same` the tours of `c` have the keys of `s.tours`
  have hv' : (assocGet? c.1 v).isSome = true := (hc.same v).symm.trans ((hi.same v).trans hsome)
  rw [hset]
  exact lic_setTour (c := { coreOf s with tours := c.1 }) hc v nt hv'

theorem isVehicle_eq_hasTour {s : Schedule} (hi : ListInv s) (v : Veh) :
    s.isVehicle v = (assocGet? s.tours v).isSome :=
  hi.same v

theorem typed_hasTour {s : Schedule} (hi : ListInv s) {v : Veh} {vt : Nat} (h : s.typeOf? v = some vt) :
    (assocGet? s.tours v).isSome = true :=
  (hi.same v).symm.trans (Option.isSome_of_eq_some h)

theorem vehiclesOfType_typed {s : Schedule} (hi : ListInv s) {vt : Nat} {v : Veh} (hm : v ∈ s.vehiclesOfType vt) :
    s.typeOf? v = some vt := by
  unfold Schedule.vehiclesOfType at hm
  cases hg : assocGet? s.idsByType vt with
  | none =>
    rw [hg] at hm
    cases hm
  | some l =>
    rw [hg] at hm
    exact hi.typed vt l hg v hm

theorem listed_hasTour {nw : Network} {s : Schedule} (hi : ListInv s) {v : Veh} (hv : v ∈ s.vehiclesAll nw) :
    (assocGet? s.tours v).isSome = true := by
  obtain ⟨vt, _, hm⟩ := List.mem_flatMap.mp hv
  exact typed_hasTour hi (vehiclesOfType_typed hi hm)

theorem endConsistent_listInv {nw : Network} {s s' : Schedule}
    (hi : ListInv s) (h : reassignEndDepotsConsistent nw s = .ok s') : ListInv s' := by
  obtain ⟨_, _, _, _, _, hfold, -, rfl⟩ := reassignEndDepotsConsistent_ok h
  refine foldTours_listInv hi (C05.endStep nw s) _ (fun acc v acc' hv hstep => ?_) hfold
  obtain ⟨r, rfl⟩ := C05.endStep_ok hstep
  exact ⟨r.nt, rfl, listed_hasTour hi hv⟩

theorem endGreedy_listInv {nw : Network} {s s' : Schedule}
    (hi : ListInv s) (h : reassignEndDepotsGreedily nw s = .ok s') : ListInv s' := by
  obtain ⟨_, _, _, _, _, hfold, -, rfl⟩ := reassignEndDepotsGreedily_ok h
  refine foldTours_listInv hi (greedyStep nw s) _ (fun acc v acc' hv hstep => ?_) hfold
  obtain ⟨r, rfl⟩ := greedyStep_ok hstep
  exact ⟨r.nt, rfl, listed_hasTour hi hv⟩

theorem improve_listInv {nw : Network} {s s' : Schedule} {vs : Option (List Veh)}
    (hi : ListInv s) (h : improveDepots nw s vs = .ok s') : ListInv s' := by
  obtain ⟨_, _, _, _, _, _, -, hfold, -, rfl⟩ := improveDepots_ok h
  refine foldTours_listInv hi (improveStep nw s) _ (fun acc v acc' _ hstep => ?_) hfold
  obtain ⟨r, rfl⟩ := improveStep_ok hstep
  exact ⟨r.nt, rfl, typed_hasTour hi r.type_eq⟩

theorem recompute_listInv {nw : Network} {s s' : Schedule} {vts : Option (List Nat)}
    (hi : ListInv s) (h : recomputeTransitionsFor nw s vts = .ok s') : ListInv s' := by
  obtain ⟨_, _, -, rfl⟩ := recomputeTransitionsFor_ok h
  exact hi

theorem C10_listing_step (nw : Network) (s : Schedule) (op : Spec.SOp) (r : OpResult)
    (hi : ListInv s) (h : applyOp nw s op = .ok r) : ListInv r.sched :=
  applyOp_cases (motive := fun _ s' => ListInv s')
    (empty_listInv nw)
    (fun _ _ _ _ => spawn_listInv hi)
    (fun _ _ _ _ => dummySpawn_listInv hi)
    (fun _ _ => delete_listInv hi)
    (fun _ _ _ _ _ _ => addPath_listInv hi)
    (fun _ _ _ _ => rmSeg_listInv hi)
    (fun _ _ _ _ _ => fit_listInv hi)
    (fun _ _ _ _ _ _ => override_listInv hi)
    (fun _ _ => improve_listInv hi)
    (fun _ => endGreedy_listInv hi)
    (fun _ _ => recompute_listInv hi)
    (fun _ => endConsistent_listInv hi)
    (fun _ _ _ _ _ _ _ => hi)
    h

theorem C10_listing_reachable (nw : Network) (ops : List Spec.SOp) (s s' : Schedule)
    (hi : ListInv s) (h : runOps nw s ops = some s') : ListInv s' :=
  runOps_induct0 (C10_listing_step nw) ops s s' hi h

/-- **C10 (listing clause), every history**: in every schedule the model reaches from the empty
    schedule by public modifications, vehicles and tours have the same duplicate-free keys (real ids
    below the counter) and the per-type id lists are duplicate-free, correctly typed and complete -/
theorem C10_listing_from_empty (nw : Network) (ops : List Spec.SOp) (s' : Schedule)
    (h : runOps nw (Schedule.empty nw) ops = some s') : ListInv s' :=
  C10_listing_reachable nw ops _ s' (empty_listInv nw) h

end RSSched.C10L
