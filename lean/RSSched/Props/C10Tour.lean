/-
Props/C10Tour: the tour clause of C10 at tour level. A real tour is valid (`TourOK`) if it is
`start depot :: activities ++ [end depot]` with at least one activity and every consecutive pair
connectable. `Tour::new`, `insert_path` of a valid path, `remove` (when a tour remains) and the two
depot replacements return valid tours.
-/
import RSSched.Props.C01Chain
import RSSched.Props.C12Remove
namespace RSSched.C10T
open Network Tour Spec C01

def Shape (nw : Network) (l : List Nat) : Prop :=
  ∃ sd mid ed, l = sd :: (mid ++ [ed]) ∧ (nw.node sd).isStartDepot = true ∧ (nw.node ed).isEndDepot = true ∧
    mid ≠ [] ∧ ∀ x ∈ mid, (nw.node x).isDepot = false

structure TourOK (nw : Network) (t : Tour) : Prop where
  real : t.isDummy = false
  shape : Shape nw t.nodes
  chain : chainB nw t.nodes = true

/-- what `Path::new` accepts -/
structure PathOK (nw : Network) (p : List Nat) : Prop where
  chain : chainB nw p = true
  act : hasNonDepot nw p = true

theorem start_reaches {nw : Network} {a b : Nat} (ha : (nw.node a).isStartDepot = true)
    (hb : (nw.node b).isStartDepot = false) : nw.canReach a b = true := by
  unfold canReach canReachNodes
  have hae : (nw.node a).isEndDepot = false := by
    simp only [Node.isStartDepot, beq_iff_eq] at ha
    simp [Node.isEndDepot, ha]
  simp [ha, hb, hae]

theorem reaches_end {nw : Network} {a b : Nat} (hb : (nw.node b).isEndDepot = true)
    (ha : (nw.node a).isEndDepot = false) : nw.canReach a b = true := by
  unfold canReach canReachNodes
  have hbs : (nw.node b).isStartDepot = false := by
    simp only [Node.isEndDepot, beq_iff_eq] at hb
    simp [Node.isStartDepot, hb]
  simp [ha, hb, hbs]

theorem depot_cases {nw : Network} {x : Nat} (h : (nw.node x).isDepot = true) :
    (nw.node x).isStartDepot = true ∨ (nw.node x).isEndDepot = true := by
  simpa [Node.isDepot] using h

theorem not_depot {nw : Network} {x : Nat} (h : (nw.node x).isDepot = false) :
    (nw.node x).isStartDepot = false ∧ (nw.node x).isEndDepot = false := by
  simpa [Node.isDepot] using h

theorem chainB_cons2 (nw : Network) (x y : Nat) (r : List Nat) :
    chainB nw (x :: y :: r) = (nw.canReach x y && chainB nw (y :: r)) := by
  simp [chainB, pairs]

theorem chain_depots (nw : Network) : ∀ (p : List Nat), chainB nw p = true →
    (∀ x ∈ p.tail, (nw.node x).isStartDepot = false) ∧ (∀ x ∈ p.dropLast, (nw.node x).isEndDepot = false)
  | [], _ => by simp
  | [_], _ => by simp
  | x :: y :: r, h => by
    rw [chainB_cons2] at h
    simp only [Bool.and_eq_true] at h
    obtain ⟨ih1, ih2⟩ := chain_depots nw (y :: r) h.2
    obtain ⟨f1, f2⟩ := reach_facts h.1
    constructor
    · intro z hz
      simp only [List.tail_cons, List.mem_cons] at hz
      rcases hz with hz | hz
      · subst hz; exact f1
      · exact ih1 z (by simpa using hz)
    · intro z hz
      simp only [List.dropLast_cons_cons, List.mem_cons] at hz
      rcases hz with hz | hz
      · subst hz; exact f2
      · exact ih2 z hz

/-- connectability keeps depots out of the inside -/
theorem Shape_of_chain {nw : Network} {l : List Nat} (hc : chainB nw l = true) {h z : Nat}
    (hh : l.head? = some h) (hz : l.getLast? = some z) (hs : (nw.node h).isStartDepot = true)
    (he : (nw.node z).isEndDepot = true) (hne : l ≠ [h, z]) : Shape nw l := by
  obtain ⟨ht, hi⟩ := chain_depots nw l hc
  obtain ⟨q, rfl⟩ := List.getLast?_eq_some_iff.mp hz
  cases q with
  | nil =>
    cases hh
    rw [Node.isStartDepot, beq_iff_eq] at hs
    rw [Node.isEndDepot, hs] at he
    cases he
  | cons h' mid =>
    cases hh
    refine ⟨h, mid, z, rfl, hs, he, fun e => hne (by rw [e]; rfl), fun x hx => ?_⟩
    rw [Node.isDepot, ht x (List.mem_append_left _ hx),
      hi x (by rw [List.dropLast_concat]; exact List.mem_cons_of_mem _ hx)]
    rfl

theorem shape_len {nw : Network} {l : List Nat} (h : Shape nw l) : 3 ≤ l.length := by
  obtain ⟨sd, mid, ed, rfl, _, _, hmid, _⟩ := h
  have := List.length_pos_iff.mpr hmid
  simp; omega

theorem hasNonDepot_iff (nw : Network) (l : List Nat) :
    hasNonDepot nw l = true ↔ ∃ x ∈ l, (nw.node x).isDepot = false := by
  unfold hasNonDepot
  rw [List.any_eq_true]
  constructor
  · rintro ⟨x, hx, h⟩; exact ⟨x, hx, by simpa using h⟩
  · rintro ⟨x, hx, h⟩; exact ⟨x, hx, by simp [h]⟩

theorem path_ends (nw : Network) (p : List Nat) (hp : PathOK nw p) :
    ((nw.node (p.headD 0)).isDepot = true → (nw.node (p.headD 0)).isStartDepot = true) ∧
    ((nw.node (p.getLastD 0)).isDepot = true → (nw.node (p.getLastD 0)).isEndDepot = true) := by
  obtain ⟨w, hwp, hwd⟩ := (hasNonDepot_iff nw p).mp hp.act
  obtain ⟨ht, hi⟩ := chain_depots nw p hp.chain
  -- with an activity next to a depot the path has two nodes, so its head is in `dropLast`, its end in `tail`
  have h2 : (nw.node (p.headD 0)).isDepot = true ∨ (nw.node (p.getLastD 0)).isDepot = true →
      p.headD 0 ∈ p.dropLast ∧ p.getLastD 0 ∈ p.tail := by
    intro hd
    cases p with
    | nil => cases hwp
    | cons a r =>
      cases r with
      | nil =>
        have ha : (nw.node a).isDepot = true := hd.elim id id
        rw [List.mem_singleton.mp hwp, ha] at hwd
        cases hwd
      | cons b r =>
        refine ⟨List.mem_cons_self, ?_⟩
        rw [List.getLastD_eq_getLast?, List.getLast?_cons_cons, List.getLast?_eq_some_getLast (List.cons_ne_nil b r)]
        exact List.getLast_mem _
  constructor
  · intro hd
    rcases depot_cases hd with h | h
    · exact h
    · rw [hi _ (h2 (.inl hd)).1] at h; cases h
  · intro hd
    rcases depot_cases hd with h | h
    · rw [ht _ (h2 (.inr hd)).2] at h; cases h
    · exact h

theorem insertRef_tourOK (nw : Network) (l p : List Nat) (hl : Shape nw l) (hc : chainB nw l = true)
    (hp : PathOK nw p) :
    Shape nw ((insertRef nw false l p).1) ∧ chainB nw ((insertRef nw false l p).1) = true := by
  obtain ⟨w, hwp, hwd⟩ := (hasNonDepot_iff nw p).mp hp.act
  have hpne := List.ne_nil_of_mem hwp
  have hchain := chain_insertRef nw l p hpne hc hp.chain
  obtain ⟨hps, hpe⟩ := path_ends nw p hp
  obtain ⟨sd, mid, ed, rfl, hsd, hed, _, _⟩ := hl
  simp only [insertRef, stripForDummy, Bool.not_false, ↓reduceIte] at hchain ⊢
  have hhead : ∃ h, ((sd :: (mid ++ [ed])).take (if (nw.node (p.headD 0)).isDepot then 0 else
      keepPrefixLen nw (sd :: (mid ++ [ed])) (p.headD 0)) ++ p).head? = some h ∧ (nw.node h).isStartDepot = true := by
    cases hda : (nw.node (p.headD 0)).isDepot
    · rw [if_neg Bool.false_ne_true]
      have hk : 0 < keepPrefixLen nw (sd :: (mid ++ [ed])) (p.headD 0) :=
        lastTrueLen_pos _ _ (Nat.succ_pos _) (start_reaches hsd (not_depot hda).1)
      obtain ⟨k, hk⟩ := Nat.exists_eq_succ_of_ne_zero (Nat.ne_of_gt hk)
      exact ⟨sd, by rw [hk]; rfl, hsd⟩
    · rw [if_pos rfl]
      exact ⟨p.headD 0, by cases p with | nil => exact absurd rfl hpne | cons a r => rfl, hps hda⟩
  have hlast : ∃ z, (p ++ (sd :: (mid ++ [ed])).drop (if (nw.node (p.getLastD 0)).isDepot then
      (sd :: (mid ++ [ed])).length else keepSuffixStart nw (sd :: (mid ++ [ed])) (p.getLastD 0))).getLast? = some z ∧
      (nw.node z).isEndDepot = true := by
    cases hdz : (nw.node (p.getLastD 0)).isDepot
    · rw [if_neg Bool.false_ne_true]
      have hm : keepSuffixStart nw (sd :: (mid ++ [ed])) (p.getLastD 0) < (sd :: (mid ++ [ed])).length :=
        firstTrueFrom_lt _ _ (Nat.succ_pos _) (by
          have : (sd :: (mid ++ [ed])).getD ((sd :: (mid ++ [ed])).length - 1) 0 = ed := by
            simp [List.getD_eq_getElem?_getD]
          rw [reachedAt, this]
          exact reaches_end hed (not_depot hdz).2)
      refine ⟨ed, ?_, hed⟩
      rw [getLast?_append_of_ne_nil _ (by simpa using hm), List.getLast?_drop, if_neg (Nat.not_le_of_lt hm)]
      exact List.getLast?_concat (l := sd :: mid)
    · refine ⟨p.getLastD 0, ?_, hpe hdz⟩
      rw [if_pos rfl, List.drop_length, List.append_nil, List.getLastD_eq_getLast?,
        List.getLast?_eq_some_getLast hpne]
      rfl
  obtain ⟨h, hh, hhs⟩ := hhead
  obtain ⟨z, hz, hze⟩ := hlast
  have hpre : ∀ k, (sd :: (mid ++ [ed])).take k ++ p ≠ [] := fun k => by simp [hpne]
  refine ⟨Shape_of_chain hchain (by rw [List.append_assoc, ← List.append_assoc, head?_append_of_ne_nil (hpre _)]; exact hh)
    (by rw [List.append_assoc, List.getLast?_append, hz]; rfl) hhs hze fun e => ?_, hchain⟩
  have hw : w ∈ [h, z] := e ▸ List.mem_append_left _ (List.mem_append_right _ hwp)
  simp only [List.mem_cons, List.not_mem_nil, or_false] at hw
  rcases hw with rfl | rfl
  · rw [Node.isDepot, hhs] at hwd; cases hwd
  · rw [Node.isDepot, hze, Bool.or_true] at hwd; cases hwd

/-- **C10 (tour clause) for `insert_path`**: a valid path into a valid real tour gives a valid real tour -/
theorem insert_tourOK (nw : Network) (hd : C17.DepotTimes nw) (hw : NodesWF' nw) (t t' : Tour) (path : List Nat)
    (rm : Option (List Nat)) (ht : TourOK nw t) (hp : PathOK nw path)
    (h : insertPath nw true t path = .ok (t', rm)) : TourOK nw t' := by
  have hc := C12.timeChain_of_chainB nw hd t.nodes ht.chain
  have hne : 0 < t.nodes.length := Nat.lt_of_lt_of_le (by decide) (shape_len ht.shape)
  obtain ⟨pl, _, hpl, _, rfl, _⟩ := insertPath_ok h
  obtain ⟨_, h2, _⟩ := C12.plan_inv nw hd hw t path hc hne pl hpl
  obtain ⟨hs, hch⟩ := insertRef_tourOK nw t.nodes path ht.shape ht.chain hp
  rw [ht.real] at h2
  rw [← h2] at hs hch
  exact ⟨ht.real, hs, hch⟩

/-- **C10 (tour clause) for `remove`**: what remains of a valid real tour is a valid real tour -/
theorem remove_tourOK (nw : Network) (t t' : Tour) (a b : Nat) (path : List Nat) (ht : TourOK nw t)
    (h : Tour.remove nw t a b = .ok (some t', path)) : TourOK nw t' := by
  have hchain := C01_remove_chain nw t t' a b path ht.chain h
  obtain ⟨s, e, _, _, _, _, _, _, rfl, _, _, hchk, hrem, _, _, _, _, _, hcond, rfl⟩ := remove_ok h
  obtain ⟨_, h2, _⟩ := C09.slice_inv hrem
  obtain ⟨_, hn1, hn2⟩ := C12.checkSeqRemovable_real hchk ht.real
  simp only [ht.real, Bool.not_false, Bool.true_and, Bool.or_eq_true, List.isEmpty_iff, decide_eq_true_eq, not_or,
    Nat.not_le] at hcond
  have hlen := hcond.2
  rw [List.length_append, List.length_take, List.length_drop] at hlen
  -- at least three nodes remain, so neither depot went
  obtain ⟨hs1, he1⟩ : 1 ≤ s ∧ e + 1 < t.nodes.length := by omega
  obtain ⟨sd, mid, ed, hl, hsd, hed, _, _⟩ := ht.shape
  refine ⟨ht.real, Shape_of_chain hchain ?_ ?_ hsd hed fun e0 => ?_, hchain⟩
  · obtain ⟨k, rfl⟩ := Nat.exists_eq_add_of_le' hs1
    rw [hl]
    rfl
  · rw [getLast?_append_of_ne_nil _ (by simpa using he1), List.getLast?_drop, if_neg (Nat.not_le_of_lt he1), hl]
    exact List.getLast?_concat (l := sd :: mid)
  · have := congrArg List.length e0
    rw [List.length_append, List.length_take, List.length_drop] at this
    exact absurd this (Nat.ne_of_gt hlen)

theorem replaceStartDepot_tourOK (nw : Network) (t t' : Tour) (d : Nat) (ht : TourOK nw t)
    (h : replaceStartDepot nw t d = .ok t') : TourOK nw t' := by
  obtain ⟨_, hd, _, _, _, _, _, _, _, _, rfl⟩ := replaceStartDepot_ok h
  obtain ⟨sd, mid, ed, hl, hsd, hed, hmid, hmidnd⟩ := ht.shape
  have hc := ht.chain
  rw [hl] at hc
  refine ⟨ht.real, ⟨d, mid, ed, by rw [hl]; rfl, hd, hed, hmid, hmidnd⟩, ?_⟩
  show chainB nw (t.nodes.set 0 d) = true
  rw [hl]
  cases mid with
  | nil => exact absurd rfl hmid
  | cons m ms =>
    rw [List.cons_append, chainB_cons2, Bool.and_eq_true] at hc
    rw [List.set_cons_zero, List.cons_append, chainB_cons2, Bool.and_eq_true]
    exact ⟨start_reaches hd (not_depot (hmidnd m (by simp))).1, hc.2⟩

theorem replaceEndDepot_tourOK (nw : Network) (t t' : Tour) (d : Nat) (ht : TourOK nw t)
    (h : replaceEndDepot nw t d = .ok t') : TourOK nw t' := by
  obtain ⟨_, hd, _, _, _, _, _, _, _, _, _, rfl⟩ := replaceEndDepot_ok h
  obtain ⟨sd, mid, ed, hl, hsd, hed, hmid, hmidnd⟩ := ht.shape
  have hnodes : t.nodes.set (t.nodes.length - 1) d = (sd :: mid) ++ [d] := by
    rw [hl]
    have : (sd :: (mid ++ [ed])).length - 1 = (sd :: mid).length := by simp
    rw [this, ← List.cons_append, List.set_append_right _ _ (Nat.le_refl _), Nat.sub_self]
    rfl
  have hc := ht.chain
  rw [hl, ← List.cons_append, chainB_append] at hc
  simp only [Bool.and_eq_true] at hc
  refine ⟨ht.real, ⟨sd, mid, d, by rw [hnodes]; rfl, hsd, hd, hmid, hmidnd⟩, ?_⟩
  show chainB nw (t.nodes.set (t.nodes.length - 1) d) = true
  rw [hnodes, chainB_append, hc.1.1]
  -- the last link goes from the last activity into an end depot
  obtain ⟨q, y, hq⟩ : ∃ q y, mid = q ++ [y] := by
    rcases List.eq_nil_or_concat mid with e | ⟨q, y, e⟩
    · exact absurd e hmid
    · exact ⟨q, y, by simpa using e⟩
  have hy : (sd :: mid).getLast? = some y := by rw [hq, ← List.cons_append, List.getLast?_concat]
  rw [hy]
  have := reaches_end hd (not_depot (hmidnd y (by rw [hq]; simp))).2
  simp [linkOK, this, chainB, pairs]

/-- `Tour::new` only builds valid real tours -/
theorem new_tourOK (nw : Network) (nodes : List Nat) (t : Tour) (h : Tour.new nw nodes = .ok t) : TourOK nw t := by
  obtain ⟨f, l, hf, hl, h1, h2, h3, _, h5, rfl⟩ := new_ok h
  have hchain : chainB nw nodes = true := by
    unfold chainB
    rw [List.all_eq_true]
    intro pr hpr
    simpa using List.any_eq_false.mp h5 pr hpr
  refine ⟨rfl, Shape_of_chain hchain (List.head?_eq_getElem?.trans (idxAt_inv hf))
    (List.getLast?_eq_getElem?.trans (idxAt_inv hl)) h1 h2 fun e => ?_, hchain⟩
  rw [show nodes = [f, l] from e] at h3
  exact absurd h3 (Nat.not_succ_le_self 2)

end RSSched.C10T
