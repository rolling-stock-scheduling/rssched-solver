/-
Props/C15NewFast: `Transition::new_fast` (the greedy clustering that builds the rotation cycles of a
vehicle type from scratch) returns a transition that satisfies `C15.Consistent` over exactly the
given vehicles.
-/
import RSSched.Props.C15Ops
namespace RSSched.C15N
open Cyclic C15 Transition

/-- the tour map `new_fast` reads -/
abbrev TM (tours : Tours) : TourMap := fun w => assocGet? tours w

/-- a cluster is a non-empty open chain with exact counter -/
def ClOK (nw : Network) (T : TourMap) (c : Cluster) : Prop :=
  c.1 ≠ [] ∧ c.2 = sumInt (c.1.map (mcOf nw T)) + pairSumI (linkOf nw T) c.1

/-- the clusters partition the vehicles handled so far -/
structure ClsOK (nw : Network) (T : TourMap) (cls : List Cluster) (done : List Veh) : Prop where
  each : ∀ c ∈ cls, ClOK nw T c
  nodup : (cls.flatMap (·.1)).Nodup
  mem : ∀ w, w ∈ cls.flatMap (·.1) ↔ w ∈ done

theorem clOK_single (nw : Network) (T : TourMap) (v : Veh) : ClOK nw T ([v], mcOf nw T v) :=
  ⟨by simp, by simp [sumInt]⟩

theorem clsOK_perm {nw : Network} {T : TourMap} {cls cls' : List Cluster} {done : List Veh}
    (hp : cls.Perm cls') (h : ClsOK nw T cls done) : ClsOK nw T cls' done := by
  have hfp : (cls.flatMap (·.1)).Perm (cls'.flatMap (·.1)) := hp.flatMap_right _
  exact ⟨fun c hc => h.each c (hp.mem_iff.mpr hc), hfp.nodup_iff.mp h.nodup,
    fun w => by rw [← hfp.mem_iff]; exact h.mem w⟩

theorem pushToCluster_ok {nw : Network} {tours : Tours} {c c' : Cluster} {v : Veh}
    (h : pushToCluster nw c v tours = .ok c') (hc : ClOK nw (TM tours) c) :
    c'.1 = c.1 ++ [v] ∧ ClOK nw (TM tours) c' := by
  unfold pushToCluster at h
  obtain ⟨t, ht, h⟩ := bind_ok h
  obtain ⟨lastV, hlast, h⟩ := bind_ok h
  obtain ⟨lt, hlt, h⟩ := bind_ok h
  obtain ⟨e, he, h⟩ := bind_ok h
  obtain ⟨s, hs, h⟩ := bind_ok h
  cases h
  have ht : TM tours v = some t := unwrapO_ok ht
  have hlt : TM tours lastV = some lt := unwrapO_ok hlt
  refine ⟨rfl, by simp, ?_⟩
  show c.2 + t.maintenanceCounter nw + depotDist nw e s =
    sumInt ((c.1 ++ [v]).map (mcOf nw (TM tours))) + pairSumI (linkOf nw (TM tours)) (c.1 ++ [v])
  rw [sumInt_map_split, List.append_nil, pairSumI_append, unwrapO_ok hlast, hc.2]
  simp only [List.head?_cons, connI, pairSumI_single, mcOf_eq ht, linkOf_eq hlt ht (unwrapR_ok he) (unwrapR_ok hs)]
  omega

theorem flatMap_set_perm (cls : List Cluster) (i : Nat) (c c' : Cluster) (v : Veh)
    (hi : cls[i]? = some c) (hc' : c'.1 = c.1 ++ [v]) :
    ((cls.set i c').flatMap (·.1)).Perm (v :: cls.flatMap (·.1)) := by
  obtain ⟨hlt, hget⟩ := List.getElem?_eq_some_iff.mp hi
  have h1 : cls = cls.take i ++ c :: cls.drop (i + 1) := by
    conv => lhs; rw [← List.take_append_drop i cls, List.drop_eq_getElem_cons hlt, hget]
  have h2 : cls.set i c' = cls.take i ++ c' :: cls.drop (i + 1) := by
    rw [List.set_eq_take_append_cons_drop, if_pos hlt]
  rw [h2]
  conv => rhs; rw [h1]
  simp only [List.flatMap_append, List.flatMap_cons, hc']
  -- A ++ ((c ++ [v]) ++ B)  ~  v :: (A ++ (c ++ B))
  refine List.Perm.trans ?_ (List.perm_middle)
  refine List.Perm.append_left _ ?_
  rw [List.append_assoc]
  exact List.perm_middle

theorem clsOK_set {nw : Network} {tours : Tours} {cls : List Cluster} {done : List Veh} {i : Nat} {c c' : Cluster}
    {v : Veh} (h : ClsOK nw (TM tours) cls done) (hi : cls[i]? = some c)
    (hpush : pushToCluster nw c v tours = .ok c') (hv : v ∉ done) :
    ClsOK nw (TM tours) (cls.set i c') (v :: done) := by
  have hcin : c ∈ cls := List.mem_of_getElem? hi
  obtain ⟨hc1, hcok⟩ := pushToCluster_ok hpush (h.each c hcin)
  have hp := flatMap_set_perm cls i c c' v hi hc1
  refine ⟨fun x hx => ?_, hp.nodup_iff.mpr ?_, fun w => ?_⟩
  · rcases List.mem_or_eq_of_mem_set hx with hx | hx
    · exact h.each x hx
    · rw [hx]; exact hcok
  · exact List.nodup_cons.mpr ⟨fun hm => hv ((h.mem v).mp hm), h.nodup⟩
  · rw [hp.mem_iff, List.mem_cons, List.mem_cons, h.mem w]

theorem assignLoop_inv {nw : Network} {tours : Tours} : ∀ (vs : List Veh) (cls res : List Cluster) (done : List Veh),
    assignLoop nw tours vs cls = .ok res → ClsOK nw (TM tours) cls done → (∀ v ∈ vs, v ∉ done) → vs.Nodup →
    ClsOK nw (TM tours) res (vs.reverse ++ done)
  | [], cls, res, done, h, hc, _, _ => by
    cases h
    exact hc
  | v :: rest, cls, res, done, h, hc, hnew, hnd => by
    unfold assignLoop at h
    obtain ⟨t, ht, h⟩ := bind_ok h
    dsimp only at h
    have hvd : v ∉ done := hnew v (by simp)
    have finish : ∀ cls', ClsOK nw (TM tours) cls' (v :: done) →
        assignLoop nw tours rest (sortByInt (fun c => c.2) cls') = .ok res →
        ClsOK nw (TM tours) res ((v :: rest).reverse ++ done) := by
      intro cls' hstep hrec
      rw [List.reverse_cons, List.append_assoc]
      refine assignLoop_inv rest _ res (v :: done) hrec (clsOK_perm (List.mergeSort_perm _ _).symm hstep) ?_
        (List.nodup_cons.mp hnd).2
      intro w hw hm
      rcases List.mem_cons.mp hm with e | e
      · subst e; exact (List.nodup_cons.mp hnd).1 hw
      · exact hnew w (by simp [hw]) e
    split at h
    · rename_i bi hbi
      obtain ⟨c, hc0, h⟩ := bind_ok h
      obtain ⟨c', hpush, h⟩ := bind_ok h
      simp only [pure_bind] at h
      exact finish _ (clsOK_set hc (unwrapO_ok hc0) hpush hvd) h
    · split at h
      · rename_i c hlast
        obtain ⟨c', hpush, h⟩ := bind_ok h
        simp only [pure_bind] at h
        have hi : cls[cls.length - 1]? = some c := by
          rw [← List.getLast?_eq_getElem?]; exact hlast
        exact finish _ (clsOK_set hc hi hpush hvd) h
      · rename_i hnone
        simp only [pure_bind] at h
        refine finish _ ?_ h
        have hnil : cls = [] := List.getLast?_eq_none_iff.mp hnone
        subst hnil
        have hdone : ∀ w, w ∉ done := fun w hw => by
          have := (hc.mem w).mpr hw
          simp at this
        refine ⟨fun c hc' => ?_, by simp, fun w => by simp [hdone w]⟩
        rw [List.mem_singleton.mp hc', ← mcOf_eq (T := TM tours) (unwrapO_ok ht)]
        exact clOK_single nw _ v

/-- the association list `new_fast` sorts into the lookup: (vehicle, index of its cycle) -/
def lookupList (cycles : List Cycle) : List (Veh × Nat) :=
  (List.range cycles.length).flatMap (fun i => (cycles.getD i default).vehicles.map (fun v => (v, i)))

theorem lookupList_mem (cycles : List Cycle) (v : Veh) (i : Nat) :
    (v, i) ∈ lookupList cycles ↔ ∃ c : Cycle, cycles[i]? = some c ∧ v ∈ c.vehicles := by
  unfold lookupList
  simp only [List.mem_flatMap, List.mem_range, List.mem_map, Prod.mk.injEq]
  constructor
  · rintro ⟨j, hj, w, hw, rfl, rfl⟩
    refine ⟨cycles[j], List.getElem?_eq_getElem hj, ?_⟩
    rwa [List.getD_eq_getElem?_getD, List.getElem?_eq_getElem hj] at hw
  · rintro ⟨c, hc, hv⟩
    refine ⟨i, (List.getElem?_eq_some_iff.mp hc).1, v, ?_, rfl, rfl⟩
    rwa [List.getD_eq_getElem?_getD, hc]

theorem range_flatMap_getD {α β} (d : α) (f : α → List β) : ∀ l : List α,
    (List.range l.length).flatMap (fun i => f (l.getD i d)) = l.flatMap f
  | [] => rfl
  | a :: as => by
    rw [List.length_cons, List.range_succ_eq_map, List.flatMap_cons, List.flatMap_cons]
    congr 1
    rw [List.flatMap_map]
    have := range_flatMap_getD d f as
    simpa using this

theorem lookupList_keys (cycles : List Cycle) :
    (lookupList cycles).map (·.1) = cycles.flatMap (·.vehicles) := by
  unfold lookupList
  simp only [List.map_flatMap, List.map_map, Function.comp_def, List.map_id']
  exact range_flatMap_getD default (·.vehicles) cycles

theorem sublist_flatMap_of_mem {α β} {f : α → List β} {l : List α} {a : α} (h : a ∈ l) :
    (f a).Sublist (l.flatMap f) := by
  rw [List.flatMap_def]
  exact List.sublist_flatten_of_mem (List.mem_map_of_mem h)

/-- `Consistent` from a partition: what `new_fast` builds and what the monitor checks -/
theorem consistent_of_partition {nw : Network} {T : TourMap} {tr : Transition} (hnd : (members tr).Nodup)
    (hperm : tr.lookup.Perm (lookupList tr.cycles)) (hen : tr.empty.Nodup)
    (hemp : ∀ i : Nat, i ∈ tr.empty ↔ ∃ c : Cycle, tr.cycles[i]? = some c ∧ c.vehicles = [])
    (hcyc : ∀ c ∈ tr.cycles, (∀ v ∈ c.vehicles, Toured nw T v) ∧ c.counter = counterSpec nw T c.vehicles)
    (htv : tr.totalViolation = sumViolations tr.cycles) (htc : tr.totalCounter = sumCounters tr.cycles) :
    Consistent nw T tr := by
  have hkeysE : ((lookupList tr.cycles).map (·.1)).Nodup := by rw [lookupList_keys]; exact hnd
  have hkeys : (tr.lookup.map (·.1)).Nodup := (hperm.map _).nodup_iff.mpr hkeysE
  refine ⟨fun i c hc => hnd.sublist (sublist_flatMap_of_mem (List.mem_of_getElem? hc)),
    fun i c hc => (hcyc c (List.mem_of_getElem? hc)).1, hkeys, fun v i => ?_, hen, hemp,
    fun i c hc => (hcyc c (List.mem_of_getElem? hc)).2, htv, htc⟩
  rw [assocGet?_perm hperm hkeys]
  exact ⟨fun hg => (lookupList_mem tr.cycles v i).mp (assocGet?_mem hg),
    fun hm => assocGet?_of_mem hkeysE ((lookupList_mem tr.cycles v i).mpr hm)⟩

theorem flatMap_singletons (l : List Veh) (f : Veh → Int) :
    (l.map (fun v => (([v], f v) : Cluster))).flatMap (·.1) = l := by
  induction l with
  | nil => rfl
  | cons a as ih => simp only [List.map_cons, List.flatMap_cons, ih]; rfl

/-- **C15 (`Transition::new_fast`)**: the result is consistent over exactly the given vehicles -/
theorem newFast_consistent (nw : Network) (vehicles : List Veh) (tours : Tours) (tr : Transition)
    (hnd : vehicles.Nodup) (htoured : ∀ v ∈ vehicles, Toured nw (TM tours) v)
    (h : Transition.newFast nw vehicles tours = .ok tr) :
    Consistent nw (TM tours) tr ∧ (∀ w, w ∈ members tr ↔ w ∈ vehicles) ∧ tr.empty = [] := by
  unfold Transition.newFast at h
  obtain ⟨withMc, hmc, h⟩ := bind_ok h
  dsimp only at h
  obtain ⟨clusters, hloop, h⟩ := bind_ok h
  obtain ⟨cycles, hcyc, h⟩ := bind_ok h
  cases h
  let m : Veh → Int := mcOf nw (TM tours)
  have hwith : withMc = vehicles.map (fun v => (v, m v)) := by
    refine mapMR_eq_map hmc fun x _ y hxy => ?_
    obtain ⟨t, ht, hxy⟩ := bind_ok hxy
    cases hxy
    show (x, t.maintenanceCounter nw) = (x, mcOf nw (TM tours) x)
    rw [mcOf_eq (T := TM tours) (unwrapO_ok ht)]
  -- start clusters: one per vehicle with a negative counter
  have hc0 : (withMc.filter (fun p => p.2 < 0)).map (fun p => (([p.1], p.2) : Cluster))
      = (vehicles.filter (fun v => m v < 0)).map (fun v => (([v], m v) : Cluster)) := by
    rw [hwith, List.filter_map, List.map_map]; rfl
  have hun : ((sortByInt (fun p => -p.2) (withMc.filter (fun p => !(p.2 < 0)))).map (·.1)).Perm
      (vehicles.filter (fun v => !(m v < 0))) := by
    have h1 : (withMc.filter (fun p => !(p.2 < 0))).map (·.1) = vehicles.filter (fun v => !(m v < 0)) := by
      rw [hwith, List.filter_map, List.map_map]
      have : ((fun x : Veh × Int => x.1) ∘ fun v => (v, m v)) = id := rfl
      rw [this, List.map_id]; rfl
    rw [← h1]
    exact (List.mergeSort_perm _ _).map _
  have hstart : ClsOK nw (TM tours) ((vehicles.filter (fun v => m v < 0)).map (fun v => (([v], m v) : Cluster)))
      (vehicles.filter (fun v => m v < 0)) := by
    refine ⟨fun c hc => ?_, ?_, fun w => ?_⟩
    · obtain ⟨v, _, rfl⟩ := List.mem_map.mp hc
      exact clOK_single nw _ v
    · rw [flatMap_singletons]; exact hnd.filter _
    · rw [flatMap_singletons]
  rw [hc0] at hloop
  have hcls := assignLoop_inv _ _ clusters _ hloop (clsOK_perm (List.mergeSort_perm _ _).symm hstart)
    (fun v hv hneg => by
      have h1 := (List.mem_filter.mp (hun.mem_iff.mp hv)).2
      have h2 := (List.mem_filter.mp hneg).2
      simp only [Bool.not_eq_true', decide_eq_false_iff_not] at h1
      simp only [decide_eq_true_eq] at h2
      exact h1 h2)
    (hun.nodup_iff.mpr (hnd.filter _))
  have hmemAll : ∀ w, w ∈ clusters.flatMap (·.1) ↔ w ∈ vehicles := by
    intro w
    rw [hcls.mem w, List.mem_append, List.mem_reverse, hun.mem_iff, List.mem_filter, List.mem_filter]
    constructor
    · rintro (⟨h1, _⟩ | ⟨h1, _⟩) <;> exact h1
    · intro hw
      by_cases hm : m w < 0
      · exact Or.inr ⟨hw, by simpa using hm⟩
      · exact Or.inl ⟨hw, by simpa using hm⟩
  -- the cycles: every cluster closed by the link from its last to its first vehicle
  have hcycles : cycles = clusters.map (fun c => ⟨c.1, counterSpec nw (TM tours) c.1⟩) := by
    refine mapMR_eq_map hcyc fun c hc cy hg => ?_
    obtain ⟨lastV, hlast, hg⟩ := bind_ok hg
    obtain ⟨firstV, hfirst, hg⟩ := bind_ok hg
    obtain ⟨lt, hlt, hg⟩ := bind_ok hg
    obtain ⟨ft, hft, hg⟩ := bind_ok hg
    obtain ⟨e, he, hg⟩ := bind_ok hg
    obtain ⟨s0, hs0, hg⟩ := bind_ok hg
    cases hg
    have hlt : TM tours lastV = some lt := unwrapO_ok hlt
    have hft : TM tours firstV = some ft := unwrapO_ok hft
    refine congrArg (Cycle.mk c.1) ?_
    unfold counterSpec cyc
    rw [unwrapO_ok hlast, unwrapO_ok hfirst, (hcls.each c hc).2]
    simp only [connI, linkOf_eq hlt hft (unwrapR_ok he) (unwrapR_ok hs0)]
    omega
  have hmembers : cycles.flatMap (·.vehicles) = clusters.flatMap (·.1) := by
    rw [hcycles, List.flatMap_map]
  have hnodup : (cycles.flatMap (·.vehicles)).Nodup := hmembers ▸ hcls.nodup
  have hmem : ∀ w, w ∈ cycles.flatMap (·.vehicles) ↔ w ∈ vehicles := hmembers ▸ hmemAll
  refine ⟨consistent_of_partition hnodup (List.mergeSort_perm _ _) List.nodup_nil
    (fun i => ⟨nofun, ?_⟩) (fun cy hcy => ?_) rfl rfl, hmem, rfl⟩
  · rintro ⟨cy, hi, hempty⟩
    rw [hcycles] at hi
    obtain ⟨c, hc, rfl⟩ := List.mem_map.mp (List.mem_of_getElem? hi)
    exact absurd hempty (hcls.each c hc).1
  · rw [hcycles] at hcy
    obtain ⟨c, hc, rfl⟩ := List.mem_map.mp hcy
    exact ⟨fun v hv => htoured v ((hmemAll v).mp (List.mem_flatMap.mpr ⟨c, hc, hv⟩)), rfl⟩

end RSSched.C15N
