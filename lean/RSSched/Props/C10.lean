/-
Props/C10: every reachable schedule satisfies the structural invariants.

The invariants are the monitor `scheduleValidDiffs` (Spec/Schedule.lean). Proved here: what an
empty diff list means, clause by clause, as declarative statements (so that "the monitor is quiet"
is the property and nothing weaker), and that a valid real tour is a chronological chain whose
consecutive nodes satisfy the documented timing rule.
That every public modification of the model preserves every clause is bundled in Props/C10All
(`C10A.InvAll`, `C10_all_from_empty`: every history from the empty schedule). On the real code the
monitor is evaluated on the state after every modification call along generated histories.
-/
import RSSched.Spec.Schedule
import RSSched.Props.C12
namespace RSSched.C10
open Spec

/-- what the monitor's silence means for the vehicle tours -/
theorem C10_vehicle_tours (nw : Network) (s : Schedule) (h : scheduleValidDiffs nw s = []) :
    ∀ v t, (v, t) ∈ s.tours →
      tourValidB nw t = true ∧ t.isDummy = false ∧
      ∀ n ∈ inner t.nodes, (nw.node n).isService = true → some (nw.node n).vt = s.typeOf? v := by
  unfold scheduleValidDiffs at h
  simp only [List.append_eq_nil_iff] at h
  obtain ⟨⟨⟨⟨⟨⟨⟨⟨_, _⟩, h3⟩, _⟩, _⟩, _⟩, _⟩, _⟩, _⟩ := h
  have h3' := (ite_nil (by simp)).mp h3
  intro v t hvt
  have := List.all_eq_true.mp h3' (v, t) hvt
  simp only [Bool.and_eq_true, Bool.not_eq_true', List.all_eq_true, Bool.or_eq_true,
    beq_iff_eq] at this
  obtain ⟨⟨a, b⟩, c⟩ := this
  refine ⟨a, b, fun n hn hs => ?_⟩
  rcases c n hn with h1 | h1
  · simp [hs] at h1
  · exact h1

/-- … for the formation and track limits -/
theorem C10_limits (nw : Network) (s : Schedule) (h : scheduleValidDiffs nw s = []) :
    ∀ n ∈ nw.coverableNodes,
      ((nw.node n).isService = true → ∀ l, nw.maxFormationFor n = some l → (s.formationOf n).length ≤ l) ∧
      ((nw.node n).isService = false → (s.formationOf n).length ≤ (nw.node n).tracks) := by
  unfold scheduleValidDiffs at h
  simp only [List.append_eq_nil_iff] at h
  obtain ⟨⟨⟨⟨⟨⟨⟨⟨_, _⟩, _⟩, _⟩, _⟩, h6⟩, _⟩, _⟩, _⟩ := h
  have h6' := (ite_nil (by simp)).mp h6
  intro n hn
  have := List.all_eq_true.mp h6' n hn
  constructor
  · intro hs l hl
    simp only [hs, ↓reduceIte, hl, decide_eq_true_eq] at this
    exact this
  · intro hs
    simp only [hs, Bool.false_eq_true, ↓reduceIte, decide_eq_true_eq] at this
    exact this

/-- … for the rotation cycles (the consistency predicate of C15) -/
theorem C10_transitions (nw : Network) (s : Schedule) (h : scheduleValidDiffs nw s = []) :
    ∀ vt ∈ nw.typeIdxs, transitionDiffs nw s.tours (s.vehiclesOfType vt) (s.transitionOf vt) = [] := by
  unfold scheduleValidDiffs at h
  simp only [List.append_eq_nil_iff] at h
  obtain ⟨_, h9⟩ := h
  intro vt hvt
  have := List.flatMap_eq_nil_iff.mp h9 vt hvt
  simpa using this

/-- a valid real tour is a chain: every consecutive pair satisfies the documented timing rule -/
theorem C10_tour_chain (nw : Network) (t : Tour) (h : tourValidB nw t = true) (hd : t.isDummy = false) :
    ∀ i, i + 1 < t.nodes.length →
      C17.ReachSpec nw (nw.node (t.nodes.getD i 0)) (nw.node (t.nodes.getD (i + 1) 0)) := by
  unfold tourValidB at h
  simp only [hd, Bool.false_eq_true, ↓reduceIte, Bool.and_eq_true] at h
  intro i hi
  exact (C17.C17_reach nw _ _).mp (C12.chain_step nw _ h.1.2 i hi)

end RSSched.C10
