/-
Props/C07Pipeline: "no later optimisation stage ever gives up covered demand", for the modelled
pipeline: the unserved-passenger figure of the returned schedule (exact by Props/C09Unserved) is at
most that of the start solution. The local search never accepts a step that raises the first level
of the objective; storing the optimised transitions and aligning the end depots do not touch formations.
-/
import RSSched.Props.C08
import RSSched.Props.C09Unserved
namespace RSSched.C07P
open C10F C09U

theorem le_unserved {a b : Obj} (h : Obj.le a b) : a.unserved ≤ b.unserved := by
  rcases h with h | h
  · unfold Obj.lt at h
    rcases h with h | ⟨h, _⟩
    · exact Nat.le_of_lt h
    · exact Nat.le_of_eq h
  · rw [h]; exact Nat.le_refl _

theorem stages_unserved (nw : Network) (o : Solve.Oracle) (tr : Solve.Trace) (h : Solve.solve nw o = .ok tr) :
    tr.afterSearch.unserved.1 + tr.afterSearch.unserved.2 ≤ tr.start.unserved.1 + tr.start.unserved.2 ∧
    tr.final.unserved = tr.afterSearch.unserved := by
  obtain ⟨_, _, ha, hw, hfin⟩ := C16P.solve_ok h
  constructor
  · rw [ha]
    split
    · exact Nat.le_refl _
    · exact le_unserved (C08.C08_result Schedule.objective (Solve.nbrs nw o.limit o.threshold) o.fuel tr.start)
  · obtain ⟨_, _, _, _, _, e⟩ := Schedule.reassignEndDepotsConsistent_depotOnly hfin
    rw [e, hw]
    rfl

/-- **C07 (no stage gives up covered demand), modelled pipeline**: with the exact unserved figures of
    `C09_unserved_pipeline`, the returned schedule's total shortfall over all service trips is at
    most the start solution's, and equal to the local-search result's -/
theorem C07_no_stage_gives_up (nw : Network) (hn : NetHyp nw) (o : Solve.Oracle)
    (hopt : ∀ s, ((o.optimise s).map (·.1)).Nodup) (tr : Solve.Trace) (h : Solve.solve nw o = .ok tr) :
    let total := fun (s : Schedule) => (sumU nw s.typeOf? s.formations).1 + (sumU nw s.typeOf? s.formations).2
    total tr.final ≤ total tr.start ∧ total tr.final = total tr.afterSearch := by
  obtain ⟨u1, u2, u3⟩ := C09_unserved_pipeline nw hn o hopt tr h
  obtain ⟨s1, s2⟩ := stages_unserved nw o tr h
  unfold UExact at u1 u2 u3
  dsimp only
  rw [← u1, ← u2, ← u3, s2]
  exact ⟨s1, rfl⟩

end RSSched.C07P
