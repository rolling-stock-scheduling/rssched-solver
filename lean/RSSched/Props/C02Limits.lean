/-
Props/C02Limits: formation and track limits hold in every schedule the model can reach (C02 / the
limits clause of C10). All writes to the train formations go through `update_train_formation`, which
adds a vehicle to a node only through the limit check of `vehicle_replacement_in_train_formation`
(replace keeps the length, remove shortens).
-/
import RSSched.Lemmas.ScheduleOps
import RSSched.Props.C13
namespace RSSched.C02
open Schedule

/-- a formation respects the limit of its node -/
def Within (nw : Network) (node : Nat) (f : List Veh) : Prop :=
  ((nw.node node).isMaint = true → f.length ≤ (nw.node node).tracks) ∧
  ((nw.node node).isService = true → ∀ l, nw.maxFormationFor node = some l → f.length ≤ l)

def FormLimits (nw : Network) (forms : List (Nat × List Veh)) : Prop :=
  ∀ n f, assocGet? forms n = some f → Within nw n f

theorem within_of_le {nw : Network} {node : Nat} {f f' : List Veh} (h : Within nw node f) (hl : f'.length ≤ f.length) :
    Within nw node f' :=
  ⟨fun hm => Nat.le_trans hl (h.1 hm), fun hs l hlim => Nat.le_trans hl (h.2 hs l hlim)⟩

/-- the only place a vehicle enters a formation checks the limit -/
theorem vehicleReplacement_within {nw : Network} {s : Schedule} {forms : List (Nat × List Veh)}
    {provider receiver : Option Veh} {node : Nat} {f' : List Veh} (hl : FormLimits nw forms)
    (h : vehicleReplacement nw s forms provider receiver node = .ok f') : Within nw node f' := by
  obtain ⟨old, hold, h⟩ := vehicleReplacement_ok h
  have hw := hl node old hold
  split at h
  · split at h
    · exact within_of_le hw (Nat.le_of_eq (C13.C13_replace_positions _ _ _ _ h).1)
    · obtain ⟨rfl, hm, hs⟩ := addChecked_ok h
      exact ⟨fun m => List.length_append ▸ hm m, fun sv l hlim => List.length_append ▸ hs sv l hlim⟩
  · split at h
    · exact within_of_le hw (C13.C13_remove_sublist _ _ _ h).length_le
    · exact h ▸ hw

theorem updateTrainFormation_limits (nw : Network) (s : Schedule) (typeOf : Veh → Option Nat)
    (provider receiver : Option Veh) : ∀ (nodes : List Nat) (forms forms' : List (Nat × List Veh)) (u u' : Nat × Nat),
    FormLimits nw forms → updateTrainFormation nw s typeOf forms u provider receiver nodes = .ok (forms', u') →
    FormLimits nw forms'
  | [], forms, forms', u, u', hl, h => by
    cases h
    exact hl
  | node :: rest, forms, forms', u, u', hl, h => by
    rcases updateTrainFormation_cons_ok h with ⟨-, h⟩ | ⟨-, f', _, hf', -, h⟩
    · exact updateTrainFormation_limits nw s typeOf provider receiver rest forms forms' u u' hl h
    · exact updateTrainFormation_limits nw s typeOf provider receiver rest _ forms' _ u'
        (forall_assocSet hl (vehicleReplacement_within hl hf')) h

/-- a branch of the code that passes the formations on unchanged -/
theorem limits_of_ok {nw : Network} {forms forms' : List (Nat × List Veh)} {u u' : Nat × Nat}
    (hl : FormLimits nw forms) (h : (.ok (forms, u) : R _) = .ok (forms', u')) : FormLimits nw forms' := by
  cases h
  exact hl

theorem empty_limits (nw : Network) : FormLimits nw (Schedule.empty nw).formations := by
  intro n f hget
  have hm := assocGet?_mem hget
  simp only [Schedule.empty, List.mem_map, Prod.mk.injEq] at hm
  obtain ⟨_, _, _, rfl⟩ := hm
  exact ⟨fun _ => Nat.zero_le _, fun _ _ _ => Nat.zero_le _⟩

theorem spawn_limits {nw : Network} {s s' : Schedule} {vt : Nat} {path : List Nat} {v : Veh}
    (hl : FormLimits nw s.formations) (h : spawnVehicleForPath nw s vt path = .ok (s', v)) :
    FormLimits nw s'.formations := by
  obtain ⟨r, rfl⟩ := spawnVehicleForPath_ok h
  exact updateTrainFormation_limits _ _ _ _ _ _ _ _ _ _ hl r.forms_eq

theorem delete_limits {nw : Network} {s s' : Schedule} {v : Veh}
    (hl : FormLimits nw s.formations) (h : replaceVehicleByDummy nw s v = .ok s') :
    FormLimits nw s'.formations := by
  obtain ⟨r, rfl⟩ := replaceVehicleByDummy_ok h
  exact updateTrainFormation_limits _ _ _ _ _ _ _ _ _ _ hl r.forms_eq

theorem dummySpawn_limits {nw : Network} {s s' : Schedule} {d : Veh} {vt : Nat} {v : Veh}
    (hl : FormLimits nw s.formations) (h : spawnToReplaceDummy nw s d vt = .ok (s', v)) :
    FormLimits nw s'.formations := by
  obtain ⟨_, s1, -, -, hdel, hspawn⟩ := spawnToReplaceDummy_ok h
  exact spawn_limits (s := s1) ((deleteDummy_ok hdel).2.2 ▸ hl) hspawn

theorem addPath_limits {nw : Network} {s s' : Schedule} {v : Veh} {path : List Nat} {rm : Option (List Nat)}
    (hl : FormLimits nw s.formations) (h : addPathToVehicleTour nw s v path = .ok (s', rm)) :
    FormLimits nw s'.formations := by
  obtain ⟨r, rfl⟩ := addPathToVehicleTour_ok h
  have h1 := updateTrainFormation_limits _ _ _ _ _ _ _ _ _ _ hl r.forms1_eq
  have hf := r.forms_eq
  cases rm with
  | none => exact limits_of_ok h1 hf
  | some rp => exact updateTrainFormation_limits _ _ _ _ _ _ _ _ _ _ h1 hf

theorem rmSeg_limits {nw : Network} {s s' : Schedule} {v : Veh} {a b : Nat}
    (hl : FormLimits nw s.formations) (h : removeSegment nw s v a b = .ok s') :
    FormLimits nw s'.formations := by
  obtain ⟨_, shrunk, _, -, -, -, h⟩ := removeSegment_ok h
  cases shrunk with
  | none => exact delete_limits hl h
  | some newTour =>
    obtain ⟨r, rfl⟩ := h
    exact updateTrainFormation_limits _ _ _ _ _ _ _ _ _ _ hl r.forms_eq

theorem updateTourAndCosts_any {s : Schedule} {tours dummyTours : Tours} {costs : Nat} {v : Veh} {t : Tour}
    {r : Tours × Tours × Nat} (_h : updateTourAndCosts s tours dummyTours costs v t = .ok r) : True := trivial

theorem updateTours_limits {nw : Network} {s : Schedule} {w w' : Work} {p : Veh} {newProv : Option Tour}
    {receiver : Veh} {newRecv : Tour} {moved : List Nat}
    (hl : FormLimits nw w.forms) (h : updateTours nw s w (some p) newProv receiver newRecv moved = .ok w') :
    FormLimits nw w'.forms := by
  obtain ⟨w0, _, _, _, _, _, _, _, hprov, -, -, -, hf, rfl⟩ := updateTours_ok h
  have h0 : w0.forms = w.forms := by cases hprov <;> rfl
  rw [← h0] at hl
  exact updateTrainFormation_limits _ _ _ _ _ _ _ _ _ _ hl hf

theorem fit_limits {nw : Network} {s s' : Schedule} {p r : Veh} {a b : Nat}
    (hl : FormLimits nw s.formations) (h : fitReassign nw s p r a b = .ok s') :
    FormLimits nw s'.formations := by
  obtain ⟨x, rfl⟩ := fitReassign_ok h
  exact updateTours_limits (w := Work.ofSchedule s) hl x.update_eq

theorem override_limits {nw : Network} {s s' : Schedule} {p r : Veh} {a b : Nat} {d : Option Veh}
    (hl : FormLimits nw s.formations) (h : overrideReassign nw s p r a b = .ok (s', d)) :
    FormLimits nw s'.formations := by
  obtain ⟨replaced, x, -, rfl⟩ := overrideReassign_ok h
  have hf := x.forms_eq
  have hw' := updateTours_limits (w := Work.ofSchedule s) hl x.update_eq
  cases replaced with
  | none => exact limits_of_ok hw' hf
  | some np =>
    dsimp only at hf
    split at hf
    · exact updateTrainFormation_limits _ _ _ _ _ _ _ _ _ _ hw' hf
    · exact limits_of_ok hw' hf

theorem depotOnly_forms {s s' : Schedule} (h : DepotOnly s s') : s'.formations = s.formations := by
  obtain ⟨_, _, _, _, _, rfl⟩ := h
  rfl

/-- **C02 / C10 (limits clause), one step**: every public modification of the model keeps all
    train formations within `min(type limit, segment limit)` and all slots within their tracks -/
theorem C02_limits_step (nw : Network) (s : Schedule) (op : Spec.SOp) (r : OpResult)
    (hl : FormLimits nw s.formations) (h : applyOp nw s op = .ok r) : FormLimits nw r.sched.formations :=
  applyOp_cases (motive := fun _ s' => FormLimits nw s'.formations)
    (empty_limits nw)
    (fun _ _ _ _ => spawn_limits hl)
    (fun _ _ _ _ => dummySpawn_limits hl)
    (fun _ _ => delete_limits hl)
    (fun _ _ _ _ _ _ => addPath_limits hl)
    (fun _ _ _ _ => rmSeg_limits hl)
    (fun _ _ _ _ _ => fit_limits hl)
    (fun _ _ _ _ _ _ => override_limits hl)
    (fun _ _ hs => depotOnly_forms (improveDepots_depotOnly hs) ▸ hl)
    (fun _ hs => depotOnly_forms (reassignEndDepotsGreedily_depotOnly hs) ▸ hl)
    (fun _ _ hs => depotOnly_forms (recomputeTransitionsFor_depotOnly hs) ▸ hl)
    (fun _ hs => depotOnly_forms (reassignEndDepotsConsistent_depotOnly hs) ▸ hl)
    (fun _ _ _ _ _ _ _ => hl)
    h

theorem C02_limits_reachable (nw : Network) (ops : List Spec.SOp) (s s' : Schedule)
    (hl : FormLimits nw s.formations) (h : runOps nw s ops = some s') : FormLimits nw s'.formations :=
  runOps_induct0 (C02_limits_step nw) ops s s' hl h

/-- **C02 / C10 (limits clause), every history**: in every schedule reachable from the empty
    schedule by any finite sequence of public modifications with any arguments, every departure
    segment is served by at most `min(type limit, segment limit)` vehicles and every maintenance
    slot by at most as many vehicles as it has tracks -/
theorem C02_limits_from_empty (nw : Network) (ops : List Spec.SOp) (s' : Schedule)
    (h : runOps nw (Schedule.empty nw) ops = some s') : FormLimits nw s'.formations :=
  C02_limits_reachable nw ops _ s' (empty_limits nw) h

end RSSched.C02
