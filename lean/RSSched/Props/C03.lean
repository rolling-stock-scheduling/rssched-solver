/-
Props/C03: facts about the model of the serialisation (Model/Output.lean, compared field by field
with the real JSON on every pipeline run).
* the dead-head trip between two connectable nodes is placed inside the gap between them:
  end(x) ≤ departure ≤ arrival ≤ start(y), for activities, depot legs and the overflow depot
  (Earliest/Latest) alike;
* a vehicle's listed dead-head trips are exactly its location changes, in order, numbered 0, 1, 2, ….
-/
import RSSched.Model.Output
import RSSched.Lemmas.Fault
import RSSched.Props.C17
namespace RSSched.C03
open Network Spec

theorem le_latest (a : ExtTime) : ExtTime.le a .latest = true := by cases a <;> simp [ExtTime.le]
theorem earliest_le (a : ExtTime) : ExtTime.le .earliest a = true := by simp [ExtTime.le]

theorem subDur_le (t : ExtTime) (d : Dur) (r : ExtTime) (h : ExtTime.subDur t d = .ok r) : ExtTime.le r t = true := by
  unfold ExtTime.subDur at h
  split at h
  · cases h; rfl
  · cases h
  · cases h; rfl
  · cases h; rfl
  · split at h
    · cases h; simp [ExtTime.le]
    · cases h

theorem C03_dht_in_gap (nw : Network) (hd : C17.DepotTimes nw) (a b : Nat) (dep arr : ExtTime)
    (hr : nw.canReach a b = true) (h : placeDeadHead nw a b = .ok (dep, arr)) :
    ExtTime.le (nw.node a).endT dep = true ∧ ExtTime.le dep arr = true ∧
    ExtTime.le arr (nw.node b).startT = true := by
  unfold placeDeadHead at h
  by_cases hdep : (nw.node a).isDepot = true
  · simp only [hdep, ↓reduceIte, bind, Except.bind] at h
    cases hs : ExtTime.subDur (nw.node b).startT (nw.minDur a b) with
    | error e => simp [hs] at h
    | ok r =>
      simp only [hs, pure, Except.pure, Except.ok.injEq, Prod.mk.injEq] at h
      obtain ⟨h1, h2⟩ := h
      subst h1; subst h2
      -- a is a depot that can reach: a start depot, ending at Earliest
      have hsd : (nw.node a).kind = .startDepot := by
        unfold canReach canReachNodes at hr
        unfold Node.isDepot Node.isStartDepot Node.isEndDepot at hdep
        cases hk : (nw.node a).kind <;> simp_all [Node.isStartDepot, Node.isEndDepot]
      rw [hd.start a hsd]
      exact ⟨earliest_le _, subDur_le _ _ _ hs, C17.ExtTime.le_refl _⟩
  · simp only [hdep, Bool.false_eq_true, ↓reduceIte, pure, Except.pure, Except.ok.injEq, Prod.mk.injEq] at h
    obtain ⟨h1, h2⟩ := h
    subst h1; subst h2
    refine ⟨C17.ExtTime.le_refl _, C17.ExtTime.le_add _ _, ?_⟩
    unfold canReach canReachNodes at hr
    unfold Node.isDepot at hdep
    simp only [Bool.or_eq_true, not_or, Bool.not_eq_true] at hdep
    by_cases he : (nw.node b).isEndDepot = true
    · have : (nw.node b).kind = .endDepot := by
        unfold Node.isEndDepot at he; simpa using he
      rw [hd.stop b this]; exact le_latest _
    · simp only [hdep.1, hdep.2, he, Bool.false_eq_true, Bool.or_self, ↓reduceIte] at hr
      split at hr
      · cases hr
      · split at hr
        · cases hr
        · exact hr

theorem C03_dht_iff_location_change (nw : Network) (s : Schedule) (v : Veh) (o : OVehicle) (t : Tour)
    (ht : s.tourOf? v = some t) (h : vehicleToOutput nw s v = .ok o) :
    o.dhts.map (fun d => (d.id, d.origin, d.dest)) =
      ((List.range ((pairs t.nodes).filter (fun (a, b) => (nw.node a).endLoc != (nw.node b).startLoc)).length).zip
        ((pairs t.nodes).filter (fun (a, b) => (nw.node a).endLoc != (nw.node b).startLoc))).map
        (fun (k, (a, b)) => (k, (nw.node a).endLoc, (nw.node b).startLoc)) := by
  unfold vehicleToOutput at h
  simp only [ht, unwrapO, bind, Except.bind] at h
  cases hvt : s.typeOf? v with
  | none => simp [hvt] at h
  | some vt =>
    simp only [hvt] at h
    cases hf : t.firstNode with
    | error e => simp [hf] at h
    | ok f =>
      simp only [hf] at h
      cases hl : t.lastNode with
      | error e => simp [hl] at h
      | ok l =>
        simp only [hl] at h
        split at h
        · cases h
        · rename_i dhts hd
          simp only [pure, Except.pure, Except.ok.injEq] at h
          subst h
          simp only
          refine mapMR_map hd fun x _ y hxy => ?_
          obtain ⟨k, a, b⟩ := x
          obtain ⟨pr, _, hxy⟩ := bind_ok hxy
          cases hxy
          rfl

end RSSched.C03
