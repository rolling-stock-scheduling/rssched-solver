/-
Props/C10All: every clause of C10 in one invariant (`InvAll`), for every history of public
modifications, every candidate of the local search and every stage of the pipeline with the modelled
transition optimiser. Clauses: vehicle and dummy listings, valid real and dummy tours (chronological,
connectable, start depot … end depot), only service trips of the vehicle's type, formation membership,
formation / track / depot limits, exact depot bookkeeping, exact caches (tours, unserved passengers,
costs, maintenance violation), and rotation cycles with exact bookkeeping that hold exactly the real
vehicles of each type.
-/
import RSSched.Props.C04Objective
import RSSched.Props.C10Types
namespace RSSched.C10A
open RSSched Spec C10F C15Opt C10Cyc

structure InvAll (nw : Network) (s : Schedule) : Prop where
  obj : C04O.InvO nw s
  types : C10Ty.TypeInv nw s
  formLimits : C02.FormLimits nw s.formations

namespace InvAll
variable {nw : Network} {s : Schedule} (h : InvAll nw s)
include h

theorem fit : C10Fit.Inv nw s := h.obj.base.fit

theorem listing : C10L.ListInv s := h.obj.tours.listing

theorem keys : C10Lim.IdsIn nw s := h.obj.base.base.keys

theorem cycles : CycInv nw s := h.obj.base.cycles

end InvAll

theorem stepInv0_all {nw : Network} (hn : NetHyp nw) (hovf : C10Lim.OvfNode nw) : C11A.StepInv0 nw (InvAll nw) where
  step := fun s op r hinv hargs h =>
    ⟨(C04O.stepInv0_obj hn hovf).step s op r hinv.obj hargs h,
     C10Ty.types_step nw hn s op r hinv.fit hinv.types h,
     C02.C02_limits_step nw s op r hinv.formLimits h⟩
  fresh := fun s p pt hinv hpt => (C04O.stepInv0_obj hn hovf).fresh s p pt hinv.obj hpt
  empty := ⟨(C04O.stepInv0_obj hn hovf).empty, C10Ty.empty_ty nw, C02.empty_limits nw⟩

theorem C10_all_reachable (nw : Network) (hn : NetHyp nw) (hovf : C10Lim.OvfNode nw) (ops : List SOp)
    (s s' : Schedule) (hinv : InvAll nw s) (hargs : ∀ op ∈ ops, ArgsOKF op) (h : C02.runOps nw s ops = some s') :
    InvAll nw s' :=
  runOps_induct (stepInv0_all hn hovf).step ops s s' hinv hargs h

/-- **C10, every history, all clauses** -/
theorem C10_all_from_empty (nw : Network) (hn : NetHyp nw) (hovf : C10Lim.OvfNode nw) (ops : List SOp)
    (s' : Schedule) (hargs : ∀ op ∈ ops, ArgsOKF op) (h : C02.runOps nw (Schedule.empty nw) ops = some s') :
    InvAll nw s' :=
  C10_all_reachable nw hn hovf ops _ s' (stepInv0_all hn hovf).empty hargs h

/-- **C11: every candidate of the local search satisfies all clauses** -/
theorem C11_candidates_all (nw : Network) (hn : NetHyp nw) (hovf : C10Lim.OvfNode nw)
    {limit threshold : Option Nat} {s : Schedule} {last : SwapInfo} {cands : List Swaps.Candidate}
    (hinv : InvAll nw s) (h : Swaps.neighborsOf nw limit threshold s last = .ok cands) :
    ∀ c ∈ cands, InvAll nw c.sched :=
  C11A.neighbors_invF (stepInv0_all hn hovf) hinv h

/-- **C01–C05, C09, C10 at pipeline level**: every stage of the pipeline with the modelled transition
    optimiser satisfies all clauses -/
theorem pipeline_all (nw : Network) (hn : NetHyp nw) (hovf : C10Lim.OvfNode nw) (o : Solve.Oracle)
    (p : Pick) (fuel : Nat) (ho : o.optimise = optimise nw p fuel) (tr : Solve.Trace)
    (h : Solve.solve nw o = .ok tr) :
    InvAll nw tr.start ∧ InvAll nw tr.afterSearch ∧ InvAll nw tr.final := by
  refine C11A.solve_inv0 (stepInv0_all hn hovf) o (fun s hs => ?_) tr h
  rw [ho]
  exact ⟨C04O.optimise_invO hn hovf p fuel hs.obj, hs.types, hs.formLimits⟩

/-- in the returned schedule every tour of a real vehicle is a chain of connectable nodes from a start
    depot to an end depot that holds only service trips of the vehicle's type (C01) -/
theorem C01_final_tours (nw : Network) (hn : NetHyp nw) (hovf : C10Lim.OvfNode nw) (o : Solve.Oracle)
    (p : Pick) (fuel : Nat) (ho : o.optimise = optimise nw p fuel) (tr : Solve.Trace)
    (h : Solve.solve nw o = .ok tr) (v : Veh) (t : Tour) (vt : Nat)
    (ht : assocGet? tr.final.tours v = some t) (hvt : assocGet? tr.final.vehicles v = some vt) :
    C10T.TourOK nw t ∧ ∀ n ∈ t.nodes, nw.compatibleWithType n vt = true := by
  obtain ⟨_, _, h3⟩ := pipeline_all nw hn hovf o p fuel ho tr h
  exact ⟨(h3.obj.tours.tours v t ht).toTourOK, h3.types v t vt ht hvt⟩

end RSSched.C10A
