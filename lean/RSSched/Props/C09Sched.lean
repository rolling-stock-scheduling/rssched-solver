/-
Props/C09Sched: the violation cache of the model's schedule is exact: after any finite sequence of
public modifications the cached maintenance violation is the sum of the total violations of the
per-type rotation-cycle records, whose keys are distinct. The modifications write the pair
(records, cache) through `update_transitions_and_violation_fast` (`updateTransitionsFast`) or
`recompute_transitions_and_violation_fast` (`recomputeTransitions`), each round of which
replaces one record and moves the cache by the difference of the totals; `set_next_day_transitions`
recomputes the sum. With C15 (each record's total = Σ max(0, cycle counter), each counter =
recomputation) this makes the second objective level exact.
-/
import RSSched.Props.C15Ops
import RSSched.Lemmas.ScheduleOps
namespace RSSched.C09S
open Schedule C02

def sumVal {κ ν : Type} (f : ν → Int) (l : List (κ × ν)) : Int := sumInt (l.map (fun p => f p.2))

theorem sumVal_cons {κ ν : Type} (f : ν → Int) (p : κ × ν) (l : List (κ × ν)) :
    sumVal f (p :: l) = f p.2 + sumVal f l := rfl

theorem sumVal_append {κ ν : Type} (f : ν → Int) (l1 l2 : List (κ × ν)) :
    sumVal f (l1 ++ l2) = sumVal f l1 + sumVal f l2 := by
  unfold sumVal sumInt
  rw [List.map_append, Cyclic.sumInt_append]

theorem sumVal_assocSet {κ ν : Type} [DecidableEq κ] (f : ν → Int) (l : List (κ × ν)) (k : κ) (old v : ν)
    (hnd : (l.map (·.1)).Nodup) (hget : assocGet? l k = some old) :
    sumVal f (assocSet l k v) = sumVal f l + f v - f old := by
  obtain ⟨pre, suf, rfl, hset, -⟩ := assoc_split hnd hget
  rw [hset, sumVal_append, sumVal_append, sumVal_cons, sumVal_cons]
  dsimp only
  omega

theorem keys_map_const {κ ν : Type} (l : List κ) (x : ν) : (l.map (fun k => (k, x))).map (·.1) = l := by
  rw [List.map_map]
  exact List.map_id l

def ViolExact (trans : List (Nat × Transition)) (viol : Int) : Prop :=
  (trans.map (·.1)).Nodup ∧ viol = sumVal (·.totalViolation) trans

theorem violExact_set {trans : List (Nat × Transition)} {viol : Int} {vt : Nat} {old new : Transition}
    (h : ViolExact trans viol) (hget : assocGet? trans vt = some old) :
    ViolExact (assocSet trans vt new) ((viol + new.totalViolation) - old.totalViolation) := by
  refine ⟨assocSet_keys_nodup _ _ _ h.1, ?_⟩
  rw [sumVal_assocSet _ _ _ old new h.1 hget, h.2]

theorem updateTransitionsFast_viol {nw : Network} {s : Schedule} {vehicles : List (Veh × Nat)} {tours : Tours} :
    ∀ {L : List Veh} {updated : Tours} {trans trans' : List (Nat × Transition)} {viol viol' : Int},
    ViolExact trans viol →
    updateTransitionsFast nw s vehicles tours L updated trans viol = .ok (trans', viol') → ViolExact trans' viol'
  | [], _, _, _, _, _, hv, h => by
    cases h
    exact hv
  | v :: rest, _, _, _, _, _, hv, h => by
    rcases updateTransitionsFast_cons_ok h with ⟨-, h⟩ | ⟨_, _, _, _, -, hold, -, h⟩
    · exact updateTransitionsFast_viol hv h
    · exact updateTransitionsFast_viol (violExact_set hv hold) h

theorem recomputeTransitions_viol {nw : Network} {ids : List (Nat × List Veh)} {tours : Tours} :
    ∀ {L : List Nat} {trans trans' : List (Nat × Transition)} {viol viol' : Int},
    ViolExact trans viol →
    recomputeTransitions nw ids tours L trans viol = .ok (trans', viol') → ViolExact trans' viol'
  | [], _, _, _, _, hv, h => by
    cases h
    exact hv
  | vt :: rest, _, _, _, _, hv, h => by
    unfold recomputeTransitions at h
    obtain ⟨l, _, h⟩ := bind_ok h
    obtain ⟨new, _, h⟩ := bind_ok h
    obtain ⟨old, hold, h⟩ := bind_ok h
    exact recomputeTransitions_viol (violExact_set hv (unwrapO_ok hold)) h

theorem empty_viol (nw : Network) : ViolExact (Schedule.empty nw).transitions (Schedule.empty nw).violation := by
  constructor
  · show ((nw.typeIdxs.map fun vt => (vt, _)).map (·.1)).Nodup
    rw [keys_map_const]
    exact List.nodup_range
  · show (0 : Int) = sumVal _ (nw.typeIdxs.map _)
    induction nw.typeIdxs with
    | nil => rfl
    | cons a as ih =>
      rw [List.map_cons, sumVal_cons, ← ih]
      rfl

theorem spawn_viol {nw : Network} {s s' : Schedule} {vt : Nat} {path : List Nat} {v : Veh}
    (hv : ViolExact s.transitions s.violation) (h : spawnVehicleForPath nw s vt path = .ok (s', v)) :
    ViolExact s'.transitions s'.violation := by
  obtain ⟨r, rfl⟩ := spawnVehicleForPath_ok h
  exact updateTransitionsFast_viol hv r.trans_eq

theorem delete_viol {nw : Network} {s s' : Schedule} {v : Veh}
    (hv : ViolExact s.transitions s.violation) (h : replaceVehicleByDummy nw s v = .ok s') :
    ViolExact s'.transitions s'.violation := by
  obtain ⟨r, rfl⟩ := replaceVehicleByDummy_ok h
  exact updateTransitionsFast_viol hv r.trans_eq

theorem dummySpawn_viol {nw : Network} {s s' : Schedule} {d : Veh} {vt : Nat} {v : Veh}
    (hv : ViolExact s.transitions s.violation) (h : spawnToReplaceDummy nw s d vt = .ok (s', v)) :
    ViolExact s'.transitions s'.violation := by
  obtain ⟨_, s1, -, -, hdel, hspawn⟩ := spawnToReplaceDummy_ok h
  exact spawn_viol (s := s1) ((deleteDummy_ok hdel).2.2 ▸ hv) hspawn

theorem addPath_viol {nw : Network} {s s' : Schedule} {v : Veh} {path : List Nat} {rm : Option (List Nat)}
    (hv : ViolExact s.transitions s.violation) (h : addPathToVehicleTour nw s v path = .ok (s', rm)) :
    ViolExact s'.transitions s'.violation := by
  obtain ⟨r, rfl⟩ := addPathToVehicleTour_ok h
  exact updateTransitionsFast_viol hv r.trans_eq

theorem rmSeg_viol {nw : Network} {s s' : Schedule} {v : Veh} {a b : Nat}
    (hv : ViolExact s.transitions s.violation) (h : removeSegment nw s v a b = .ok s') :
    ViolExact s'.transitions s'.violation := by
  obtain ⟨_, shrunk, _, -, -, -, h⟩ := removeSegment_ok h
  cases shrunk with
  | none => exact delete_viol hv h
  | some newTour =>
    obtain ⟨r, rfl⟩ := h
    exact updateTransitionsFast_viol hv r.trans_eq

theorem fit_viol {nw : Network} {s s' : Schedule} {p r : Veh} {a b : Nat}
    (hv : ViolExact s.transitions s.violation) (h : fitReassign nw s p r a b = .ok s') :
    ViolExact s'.transitions s'.violation := by
  obtain ⟨x, rfl⟩ := fitReassign_ok h
  exact updateTransitionsFast_viol hv x.trans_eq

theorem override_viol {nw : Network} {s s' : Schedule} {p r : Veh} {a b : Nat} {d : Option Veh}
    (hv : ViolExact s.transitions s.violation) (h : overrideReassign nw s p r a b = .ok (s', d)) :
    ViolExact s'.transitions s'.violation := by
  obtain ⟨_, x, -, rfl⟩ := overrideReassign_ok h
  exact updateTransitionsFast_viol hv x.trans_eq

theorem improve_viol {nw : Network} {s s' : Schedule} {vs : Option (List Veh)}
    (hv : ViolExact s.transitions s.violation) (h : improveDepots nw s vs = .ok s') :
    ViolExact s'.transitions s'.violation := by
  obtain ⟨_, _, _, _, _, _, -, -, ht, rfl⟩ := improveDepots_ok h
  cases vs with
  | none => exact recomputeTransitions_viol hv ht
  | some ids => exact updateTransitionsFast_viol hv ht

theorem endGreedy_viol {nw : Network} {s s' : Schedule}
    (hv : ViolExact s.transitions s.violation) (h : reassignEndDepotsGreedily nw s = .ok s') :
    ViolExact s'.transitions s'.violation := by
  obtain ⟨_, _, _, _, _, -, ht, rfl⟩ := reassignEndDepotsGreedily_ok h
  exact recomputeTransitions_viol hv ht

theorem recompute_viol {nw : Network} {s s' : Schedule} {vts : Option (List Nat)}
    (hv : ViolExact s.transitions s.violation) (h : recomputeTransitionsFor nw s vts = .ok s') :
    ViolExact s'.transitions s'.violation := by
  obtain ⟨_, _, ht, rfl⟩ := recomputeTransitionsFor_ok h
  exact recomputeTransitions_viol hv ht

theorem endConsistent_viol {nw : Network} {s s' : Schedule}
    (hv : ViolExact s.transitions s.violation) (h : reassignEndDepotsConsistent nw s = .ok s') :
    ViolExact s'.transitions s'.violation := by
  obtain ⟨_, _, _, _, _, -, ht, rfl⟩ := reassignEndDepotsConsistent_ok h
  exact updateTransitionsFast_viol hv ht

theorem C09_violation_step (nw : Network) (s : Schedule) (op : Spec.SOp) (r : OpResult)
    (hv : ViolExact s.transitions s.violation) (h : applyOp nw s op = .ok r) :
    ViolExact r.sched.transitions r.sched.violation :=
  applyOp_cases (motive := fun _ s' => ViolExact s'.transitions s'.violation)
    (empty_viol nw)
    (fun _ _ _ _ => spawn_viol hv)
    (fun _ _ _ _ => dummySpawn_viol hv)
    (fun _ _ => delete_viol hv)
    (fun _ _ _ _ _ _ => addPath_viol hv)
    (fun _ _ _ _ => rmSeg_viol hv)
    (fun _ _ _ _ _ => fit_viol hv)
    (fun _ _ _ _ _ _ => override_viol hv)
    (fun _ _ => improve_viol hv)
    (fun _ => endGreedy_viol hv)
    (fun _ _ => recompute_viol hv)
    (fun _ => endConsistent_viol hv)
    (fun _ _ _ _ _ _ _ => ⟨assocSet_keys_nodup _ _ _ hv.1, rfl⟩)
    h

theorem C09_violation_reachable (nw : Network) (ops : List Spec.SOp) (s s' : Schedule)
    (hv : ViolExact s.transitions s.violation) (h : runOps nw s ops = some s') :
    ViolExact s'.transitions s'.violation :=
  runOps_induct0 (C09_violation_step nw) ops s s' hv h

/-- **C09 (violation cache), every history**: in every schedule the model reaches from the empty
    schedule the cached maintenance violation is the sum of the per-type totals -/
theorem C09_violation_from_empty (nw : Network) (ops : List Spec.SOp) (s' : Schedule)
    (h : runOps nw (Schedule.empty nw) ops = some s') : ViolExact s'.transitions s'.violation :=
  C09_violation_reachable nw ops _ s' (empty_viol nw) h

end RSSched.C09S
