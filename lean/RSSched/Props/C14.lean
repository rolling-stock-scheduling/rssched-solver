/-
Props/C14: the start solution is an optimum of the per-type covering circulation.

* `checkB` is the certificate checker the driver runs on every real flow: feasibility (bounds,
  conservation) and the reduced-cost optimality conditions for given node potentials.
* `C14_cert`: if `checkB` accepts, the flow costs no more than any feasible circulation of the same
  network (all circulations, not a sample).
* `C14_lex`: a flow that is optimal for the vehicle count (cost 1 on depot arcs) and for the
  solver's cost (spawning cost on depot arcs + operating costs) uses the minimum number of vehicles
  and, among the circulations with that number of vehicles, has minimum operating cost.
The potentials are computed outside Lean (Bellman–Ford in the harness) and are only checked.
-/
import RSSched.Lemmas.FlowCert
import RSSched.Model.Flow
namespace RSSched.C14
open FlowCert

def flowFn (fl : List Int) : Nat → Int := fun i => fl.getD i 0
def potFn (pot : List (Nat × Int)) : Nat → Int := fun v => (assocGet? pot v).getD 0

/-- indexed `all` over an arc list -/
def allFrom : List Arc → Nat → (Nat → Arc → Bool) → Bool
  | [], _, _ => true
  | a :: as, k, p => p k a && allFrom as (k + 1) p

theorem allFrom_spec (A : List Arc) (k : Nat) (p : Nat → Arc → Bool) (h : allFrom A k p = true) :
    ∀ j a, A[j]? = some a → p (k + j) a = true := by
  induction A generalizing k with
  | nil => intro j a hj; simp at hj
  | cons x xs ih =>
    simp only [allFrom, Bool.and_eq_true] at h
    intro j a hj
    cases j with
    | zero => simp at hj; subst hj; simpa using h.1
    | succ j' =>
      have := ih (k + 1) h.2 j' a (by simpa using hj)
      have e : k + 1 + j' = k + (j' + 1) := by omega
      rw [e] at this; exact this

def checkB (V : List Nat) (A : List Arc) (fl : List Int) (pot : List (Nat × Int)) : Bool :=
  let f := flowFn fl
  let π := potFn pot
  allFrom A 0 (fun i a => decide (a.lb ≤ f i) && decide (f i ≤ a.ub)) &&
  V.all (fun v => decide (outflow A f v = inflow A f v)) &&
  allFrom A 0 (fun i a =>
    (decide (redCost π a ≤ 0) || decide (f i = a.lb)) && (decide (0 ≤ redCost π a) || decide (f i = a.ub)))

theorem checkB_feasible (V : List Nat) (A : List Arc) (fl : List Int) (pot : List (Nat × Int))
    (h : checkB V A fl pot = true) : Feasible V A (flowFn fl) := by
  unfold checkB at h
  simp only [Bool.and_eq_true] at h
  obtain ⟨⟨h1, h2⟩, _⟩ := h
  constructor
  · intro i a hi
    have := allFrom_spec A 0 _ h1 i a hi
    simp only [Nat.zero_add, Bool.and_eq_true, decide_eq_true_eq] at this
    exact this
  · intro v hv
    have := List.all_eq_true.mp h2 v hv
    simpa using this

theorem checkB_opt (V : List Nat) (A : List Arc) (fl : List Int) (pot : List (Nat × Int))
    (h : checkB V A fl pot = true) : OptCond A (potFn pot) (flowFn fl) := by
  unfold checkB at h
  simp only [Bool.and_eq_true] at h
  obtain ⟨_, h3⟩ := h
  intro i a hi
  have := allFrom_spec A 0 _ h3 i a hi
  simp only [Nat.zero_add, Bool.and_eq_true, Bool.or_eq_true, decide_eq_true_eq] at this
  constructor
  · intro hpos
    rcases this.1 with h' | h'
    · omega
    · exact h'
  · intro hneg
    rcases this.2 with h' | h'
    · omega
    · exact h'

theorem C14_cert (V : List Nat) (hV : V.Nodup) (A : List Arc) (hA : ∀ a ∈ A, a.src ∈ V ∧ a.dst ∈ V)
    (fl : List Int) (pot : List (Nat × Int)) (h : checkB V A fl pot = true) :
    Feasible V A (flowFn fl) ∧ ∀ f', Feasible V A f' → cost A (flowFn fl) ≤ cost A f' := by
  refine ⟨checkB_feasible V A fl pot h, fun f' hf' => ?_⟩
  exact cert_sound V hV A hA (potFn pot) (flowFn fl) f' (checkB_feasible V A fl pot h) hf' (checkB_opt V A fl pot h)

/-- the same arcs with another cost vector -/
def recost (A : List Arc) (c : Arc → Int) : List Arc := A.map (fun a => { a with cost := c a })

theorem recost_getElem? (A : List Arc) (c : Arc → Int) (i : Nat) :
    (recost A c)[i]? = (A[i]?).map (fun a => { a with cost := c a }) := by
  simp [recost]

theorem sumFrom_recost (A : List Arc) (c : Arc → Int) (k : Nat) (g : Nat → Arc → Int)
    (hg : ∀ i a, g i { a with cost := c a } = g i a) :
    sumFrom (recost A c) k g = sumFrom A k g := by
  induction A generalizing k with
  | nil => rfl
  | cons a as ih =>
    simp only [recost, List.map_cons, sumFrom]
    rw [hg]
    have := ih (k + 1)
    simp only [recost] at this
    rw [this]

theorem feasible_recost (V : List Nat) (A : List Arc) (c : Arc → Int) (f : Nat → Int) :
    Feasible V (recost A c) f ↔ Feasible V A f := by
  have hout : ∀ v, outflow (recost A c) f v = outflow A f v := fun v => sumFrom_recost _ _ _ _ (by intros; rfl)
  have hin : ∀ v, inflow (recost A c) f v = inflow A f v := fun v => sumFrom_recost _ _ _ _ (by intros; rfl)
  constructor
  · intro h
    refine ⟨fun i a hi => h.bounds i { a with cost := c a } (by rw [recost_getElem?, hi]; rfl), fun v hv => ?_⟩
    rw [← hout, ← hin]
    exact h.conserve v hv
  · intro h
    refine ⟨fun i a hi => ?_, fun v hv => ?_⟩
    · rw [recost_getElem?] at hi
      obtain ⟨a0, ha, rfl⟩ := Option.map_eq_some_iff.mp hi
      exact h.bounds i a0 ha
    · rw [hout, hin]
      exact h.conserve v hv

/-- `veh` marks the depot arcs; total cost = `M · vehicles + operating cost` -/
theorem C14_lex (V : List Nat) (A : List Arc) (veh : Arc → Int) (M : Int) (f : Nat → Int)
    (hveh : ∀ g, Feasible V A g → cost (recost A veh) f ≤ cost (recost A veh) g)
    (htot : ∀ g, Feasible V A g → cost A f ≤ cost A g) :
    ∀ g, Feasible V A g →
      cost (recost A veh) f ≤ cost (recost A veh) g ∧
      (cost (recost A veh) g = cost (recost A veh) f →
        cost A f - M * cost (recost A veh) f ≤ cost A g - M * cost (recost A veh) g) := by
  intro g hg
  refine ⟨hveh g hg, fun he => ?_⟩
  have := htot g hg
  rw [he]; omega

/-- non-vacuity: a two-node cycle with one cheap and one expensive arc -/
def demoA : List Arc := [⟨0, 1, 1, 3, 5⟩, ⟨1, 0, 0, 3, 2⟩, ⟨1, 0, 0, 3, 9⟩]

example : checkB [0, 1] demoA [1, 1, 0] [(0, 2), (1, 0)] = true := by decide
example : checkB [0, 1] demoA [1, 0, 1] [(0, 2), (1, 0)] = false := by decide

end RSSched.C14
