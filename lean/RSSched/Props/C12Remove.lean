/-
Props/C12Remove: whenever the model of `Tour::remove` returns on a valid tour, its result is the one of
the reference semantics `removeRef` (no positions, no deltas): the removed path is the slice between
the two nodes, the remaining tour is the node list without that slice (or no tour at all when nothing
but depots would be left), and the reference does not refuse. Contrapositive: what the reference
refuses (unconnectable neighbours, a stranded depot), the model never performs.
-/
import RSSched.Props.C01Chain
namespace RSSched.C12
open Tour Spec

/-- what `check_if_sequence_is_removable` excludes for real tours -/
theorem checkSeqRemovable_real {nw : Network} {t : Tour} {s e : Nat} (h : checkSeqRemovable nw t s e = .ok ())
    (hreal : t.isDummy = false) :
    3 ≤ t.nodes.length ∧ ¬ (s = 0 ∧ e ≤ t.nodes.length - 3) ∧ ¬ (e = t.nodes.length - 1 ∧ 2 ≤ s) := by
  obtain ⟨h1, h⟩ := else_ok h
  obtain ⟨h2, h⟩ := else_ok h
  obtain ⟨h3, _⟩ := else_ok h
  simp only [hreal, Bool.not_false, Bool.true_and, decide_eq_true_eq, Nat.not_lt, Bool.and_eq_true, beq_iff_eq,
    ge_iff_le] at h1 h2 h3
  exact ⟨h1, h2, h3⟩

theorem hasNonDepot_false_of_all_depots (nw : Network) (l : List Nat) (h : ∀ x ∈ l, (nw.node x).isDepot = true) :
    hasNonDepot nw l = false := by
  rw [hasNonDepot_eq, List.all_eq_true.mpr h, Bool.not_true]

theorem mem_drop_last {l : List Nat} {k x : Nat} (hk : l.length - 1 ≤ k) (hx : x ∈ l.drop k) : x = l.getLastD 0 := by
  obtain ⟨i, hi, rfl⟩ := List.getElem_of_mem hx
  rw [List.length_drop] at hi
  rw [List.getElem_drop, List.getLastD_eq_getLast?, List.getLast?_eq_getElem?, List.getElem?_eq_getElem (by omega)]
  simp only [Option.getD_some]
  congr 1
  omega

theorem mem_take_one {l : List Nat} {x : Nat} (hx : x ∈ l.take 1) : x = l.headD 0 := by
  cases l with
  | nil => cases hx
  | cons y ys => simpa using hx

/-- **C12 (remove)**: the model's result is the reference's -/
theorem C12_remove_ok (nw : Network) (t : Tour) (a b : Nat) (ot : Option Tour) (path : List Nat)
    (hv : tourValidB nw t = true) (h : Tour.remove nw t a b = .ok (ot, path)) :
    ∃ rest, removeRef nw t.isDummy t.nodes a b = .ok rest path ∧
      (match ot with
       | some t' => t'.nodes = rest ∧ t'.isDummy = t.isDummy
       | none => rest = [] ∨ (t.isDummy = false ∧ rest.length ≤ 2)) := by
  obtain ⟨s, e, removed, _, _, _, _, _, rfl, hs, he, hchk, hrem, hp, _, _, _, _, hot⟩ := remove_ok h
  have hse := C09.checkSeqRemovable_le hchk
  obtain ⟨h1, h2, rfl⟩ := C09.slice_inv hrem
  refine ⟨t.nodes.take s ++ t.nodes.drop (e + 1), ?_, ?_⟩
  · have hgap : (decide (s > 0) && decide (e < t.nodes.length - 1) &&
        !nw.canReach (t.nodes.getD (s - 1) 0) (t.nodes.getD (e + 1) 0)) = false := by
      by_cases hs0 : 0 < s
      · by_cases he1 : e < t.nodes.length - 1
        · rw [C01.checkSeqRemovable_gap hchk hs0 he1]; simp
        · simp [he1]
      · simp [hs0]
    have hstr : (!t.isDummy && hasNonDepot nw (t.nodes.take s ++ t.nodes.drop (e + 1)) &&
        (s == 0 || e == t.nodes.length - 1)) = false := by
      cases hdum : t.isDummy with
      | true => rfl
      | false =>
        obtain ⟨hlen, hn1, hn2⟩ := checkSeqRemovable_real hchk hdum
        obtain ⟨_, hfirst, hlast, _⟩ := tourValidB_real hv hdum
        by_cases hs0 : s = 0
        · -- everything up to at least the last activity goes: at most the end depot stays
          rw [hasNonDepot_false_of_all_depots, Bool.and_false, Bool.false_and]
          intro x hx
          rw [hs0, List.take_zero, List.nil_append] at hx
          rw [mem_drop_last (by omega) hx]
          exact C09.isDepot_of_end hlast
        · by_cases he1 : e = t.nodes.length - 1
          · rw [hasNonDepot_false_of_all_depots, Bool.and_false, Bool.false_and]
            intro x hx
            obtain ⟨hle, rfl⟩ : t.nodes.length ≤ e + 1 ∧ s = 1 := by omega
            rw [List.drop_eq_nil_of_le hle, List.append_nil] at hx
            rw [mem_take_one hx]
            exact C09.isDepot_of_start hfirst
          · simp [hs0, he1]
    unfold removeRef
    rw [positionOf_ok hs, positionOf_ok he, pathTrusted_some hp]
    simp only [show ¬ s > e by omega, hstr, hgap, Bool.or_self, Bool.false_eq_true, ↓reduceIte]
  · cases ot with
    | none => simpa only [Bool.or_eq_true, List.isEmpty_iff, Bool.and_eq_true, Bool.not_eq_eq_eq_not, Bool.not_true,
        decide_eq_true_eq] using hot
    | some t' => exact hot.2 ▸ ⟨rfl, rfl⟩

end RSSched.C12
