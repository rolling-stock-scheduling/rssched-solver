/-
Props/C08: the local search only improves, in the documented priority order, up to a fixpoint.
The theorems are about the search loop of Model/Objective.lean for an arbitrary neighbourhood and
state type, so they hold for the schedule search, the transition search and the cycle TSP alike.
-/
import RSSched.Model.Objective
namespace RSSched.C08

/-- the documented priority order: unserved, then violation, then vehicle count, then costs -/
theorem C08_order (a b : Obj) :
    Obj.lt a b ↔
      (a.unserved, a.violation, a.vehicles, a.costs) ≠ (b.unserved, b.violation, b.vehicles, b.costs) ∧
      (a.unserved < b.unserved ∨ (a.unserved = b.unserved ∧ (a.violation < b.violation ∨
        (a.violation = b.violation ∧ (a.vehicles < b.vehicles ∨ (a.vehicles = b.vehicles ∧ a.costs ≤ b.costs)))))) := by
  unfold Obj.lt
  constructor
  · intro h
    refine ⟨?_, ?_⟩
    · intro he; simp only [Prod.mk.injEq] at he; omega
    · omega
  · rintro ⟨hne, h⟩
    simp only [ne_eq, Prod.mk.injEq] at hne
    omega

theorem lt_irrefl (a : Obj) : ¬ Obj.lt a a := by unfold Obj.lt; omega

theorem lt_trans {a b c : Obj} (h1 : Obj.lt a b) (h2 : Obj.lt b c) : Obj.lt a c := by
  unfold Obj.lt at *; omega

theorem lt_asymm {a b : Obj} (h1 : Obj.lt a b) : ¬ Obj.lt b a := by
  unfold Obj.lt at *; omega

theorem le_trans {a b c : Obj} (h1 : Obj.le a b) (h2 : Obj.le b c) : Obj.le a c := by
  unfold Obj.le at *
  rcases h1 with h1 | h1 <;> rcases h2 with h2 | h2
  · exact Or.inl (lt_trans h1 h2)
  · subst h2; exact Or.inl h1
  · subst h1; exact Or.inl h2
  · subst h1; exact Or.inr h2

theorem foldl_pick_mem {α} (p : α → α → Prop) [∀ a b, Decidable (p a b)] (cs : List α) (c : α) :
    cs.foldl (fun b x => if p x b then x else b) c ∈ c :: cs := by
  induction cs generalizing c with
  | nil => simp
  | cons x xs ih =>
    simp only [List.foldl_cons]
    rcases List.mem_cons.mp (ih (if p x c then x else c)) with h | h
    · rw [h]; split <;> simp
    · exact List.mem_cons_of_mem _ (List.mem_cons_of_mem _ h)

theorem not_lt_of_le {a b : Obj} (h : Obj.le a b) : ¬ Obj.lt b a := by
  unfold Obj.le Obj.lt at *
  rcases h with h | h
  · omega
  · subst h; omega

theorem foldl_best_minimal {σ} (obj : σ → Obj) (cs : List σ) (c : σ) :
    ∀ x ∈ c :: cs, ¬ Obj.lt (obj x) (obj (cs.foldl (fun b x => if Obj.lt (obj x) (obj b) then x else b) c)) := by
  induction cs generalizing c with
  | nil => intro x hx; simp at hx; subst hx; exact lt_irrefl _
  | cons y ys ih =>
    intro x hx
    simp only [List.foldl_cons]
    by_cases hy : Obj.lt (obj y) (obj c)
    · simp only [hy, ↓reduceIte]
      rcases List.mem_cons.mp hx with h | h
      · subst h
        intro hlt
        have hb := ih y y (by simp)
        exact hb (lt_trans hy hlt)
      · rcases List.mem_cons.mp h with h | h
        · subst h; exact ih x x (by simp)
        · exact ih y x (by simp [h])
    · simp only [hy, ↓reduceIte]
      rcases List.mem_cons.mp hx with h | h
      · subst h; exact ih x x (by simp)
      · rcases List.mem_cons.mp h with h | h
        · subst h
          intro hlt
          have hb := ih c c (by simp)
          -- obj x < obj best, ¬ obj x < obj c, ¬ obj c < obj best
          unfold Obj.lt at *; omega
        · exact ih c x (by simp [h])

/-- **C08**: every accepted step is a neighbour, strictly better, and minimal among the neighbours -/
theorem C08_step {σ} (obj : σ → Obj) (nbrs : σ → List σ) (s c : σ) (h : improve obj nbrs s = some c) :
    c ∈ nbrs s ∧ Obj.lt (obj c) (obj s) ∧ ∀ c' ∈ nbrs s, ¬ Obj.lt (obj c') (obj c) := by
  unfold improve at h
  split at h
  · cases h
  · rename_i x xs heq
    simp only at h
    split at h
    · cases h
      rename_i hlt
      refine ⟨?_, hlt, ?_⟩
      · rw [heq]; exact foldl_pick_mem (fun x b => Obj.lt (obj x) (obj b)) xs x
      · rw [heq]; exact foldl_best_minimal obj xs x
    · cases h

/-- the result is never worse than the start -/
theorem C08_result {σ} (obj : σ → Obj) (nbrs : σ → List σ) (fuel : Nat) (s : σ) :
    Obj.le (obj (searchFuel obj nbrs fuel s).1) (obj s) := by
  induction fuel generalizing s with
  | zero => exact Or.inr rfl
  | succ n ih =>
    unfold searchFuel
    cases h : improve obj nbrs s with
    | none => exact Or.inr rfl
    | some s' =>
      exact le_trans (ih s') (Or.inl (C08_step obj nbrs s s' h).2.1)

/-- when the loop ends by itself, its result is a fixpoint -/
theorem C08_fix {σ} (obj : σ → Obj) (nbrs : σ → List σ) (fuel : Nat) (s : σ)
    (h : (searchFuel obj nbrs fuel s).2 = true) :
    improve obj nbrs (searchFuel obj nbrs fuel s).1 = none := by
  induction fuel generalizing s with
  | zero => simp [searchFuel] at h
  | succ n ih =>
    unfold searchFuel at h ⊢
    cases h2 : improve obj nbrs s with
    | none => simp [h2]
    | some s' => simp only [h2] at h ⊢; exact ih s' h

/-- running the search again on its own result changes nothing -/
theorem C08_idempotent {σ} (obj : σ → Obj) (nbrs : σ → List σ) (fuel fuel' : Nat) (s : σ)
    (h : (searchFuel obj nbrs fuel s).2 = true) :
    searchFuel obj nbrs (fuel' + 1) (searchFuel obj nbrs fuel s).1 = ((searchFuel obj nbrs fuel s).1, true) := by
  have := C08_fix obj nbrs fuel s h
  simp [searchFuel, this]

/-- no neighbour of a fixpoint is strictly better -/
theorem C08_fix_no_better {σ} (obj : σ → Obj) (nbrs : σ → List σ) (s : σ) (h : improve obj nbrs s = none) :
    ∀ c ∈ nbrs s, ¬ Obj.lt (obj c) (obj s) := by
  unfold improve at h
  split at h
  · rename_i heq; intro c hc; rw [heq] at hc; cases hc
  · rename_i x xs heq
    simp only at h
    split at h
    · cases h
    · rename_i hnlt
      intro c hc hlt
      rw [heq] at hc
      have := foldl_best_minimal obj xs x c hc
      -- best is not better than s, c is better than s, but c is not better than best
      unfold Obj.lt at *; omega

example : Obj.lt ⟨0, 5, 3, 10⟩ ⟨0, 5, 3, 11⟩ ∧ Obj.lt ⟨0, 4, 9, 99⟩ ⟨0, 5, 3, 11⟩ ∧ ¬ Obj.lt ⟨1, 0, 0, 0⟩ ⟨0, 9, 9, 9⟩ := by
  decide

end RSSched.C08
