/-
Props/C01Chain: the tours produced by the two node-changing tour modifications are connectable
chains (C01's "every consecutive pair is connectable", C10's tour clause): inserting a connectable
path into a valid real tour, and removing a segment from a tour whose consecutive nodes are
connectable. The insertion result is `kept prefix ++ path ++ kept suffix` (C12_insert); the two new
links are connectable because the prefix/suffix boundaries are defined by `can_reach`; the removal
closes its gap only after `can_reach` of the two neighbours was checked.
-/
import RSSched.Props.C12Insert
import RSSched.Props.C09Insert
namespace RSSched.C01
open Tour Spec

def linkOK (nw : Network) : Option Nat → Option Nat → Bool
  | some a, some b => nw.canReach a b
  | _, _ => true

theorem chainB_append (nw : Network) (l1 l2 : List Nat) :
    chainB nw (l1 ++ l2) = (chainB nw l1 && linkOK nw l1.getLast? l2.head? && chainB nw l2) := by
  unfold chainB
  rw [pairs_append, List.all_append, List.all_append]
  congr 2
  cases l1.getLast? <;> cases l2.head? <;> simp [connPairs, linkOK, conn]

theorem chainB_take_drop (nw : Network) (l : List Nat) (k : Nat) (h : chainB nw l = true) :
    chainB nw (l.take k) = true ∧ chainB nw (l.drop k) = true := by
  rw [← List.take_append_drop k l, chainB_append] at h
  simp only [Bool.and_eq_true] at h
  exact ⟨h.1.1, h.2⟩

theorem chainB_take (nw : Network) (l : List Nat) (k : Nat) (h : chainB nw l = true) : chainB nw (l.take k) = true :=
  (chainB_take_drop nw l k h).1

theorem chainB_drop (nw : Network) (l : List Nat) (k : Nat) (h : chainB nw l = true) : chainB nw (l.drop k) = true :=
  (chainB_take_drop nw l k h).2

theorem getLast?_take_getD (l : List Nat) (k : Nat) (h1 : 0 < k) (h2 : k ≤ l.length) :
    (l.take k).getLast? = some (l.getD (k - 1) 0) := by
  have hk : k - 1 < l.length := Nat.lt_of_lt_of_le (Nat.sub_lt h1 Nat.one_pos) h2
  rw [List.getLast?_take, if_neg (Nat.ne_of_gt h1), List.getD_eq_getElem?_getD, List.getElem?_eq_getElem hk]
  rfl

theorem head?_drop_getD (l : List Nat) (m : Nat) (h : m < l.length) : (l.drop m).head? = some (l.getD m 0) := by
  rw [List.head?_drop, List.getD_eq_getElem?_getD, List.getElem?_eq_getElem h]
  rfl

theorem linkOK_keepPrefix (nw : Network) (nodes : List Nat) (x : Nat) :
    linkOK nw (nodes.take (keepPrefixLen nw nodes x)).getLast? (some x) = true := by
  by_cases hk : 0 < keepPrefixLen nw nodes x
  · rewrite [getLast?_take_getD nodes _ hk (lastTrueLen_le _ _)]
    exact lastTrueLen_true (reachesAt nw nodes x) nodes.length hk
  · rw [Nat.eq_zero_of_not_pos hk]
    rfl

theorem linkOK_keepSuffix (nw : Network) (nodes : List Nat) (x : Nat) :
    linkOK nw (some x) (nodes.drop (keepSuffixStart nw nodes x)).head? = true := by
  by_cases hm : keepSuffixStart nw nodes x < nodes.length
  · rewrite [head?_drop_getD nodes _ hm]
    exact firstTrueFrom_true (reachedAt nw nodes x) nodes.length 0 (by rw [Nat.zero_add]; exact hm)
  · rw [List.drop_eq_nil_of_le (Nat.le_of_not_lt hm)]
    rfl

theorem chain_insertRef (nw : Network) (nodes p : List Nat) (hp : p ≠ [])
    (hn : chainB nw nodes = true) (hpc : chainB nw p = true) :
    let first := p.headD 0
    let last := p.getLastD 0
    let k := if (nw.node first).isDepot then 0 else keepPrefixLen nw nodes first
    let m := if (nw.node last).isDepot then nodes.length else keepSuffixStart nw nodes last
    chainB nw (nodes.take k ++ p ++ nodes.drop m) = true := by
  intro first last k m
  have hhead : p.head? = some first := by
    show _ = some (p.headD 0)
    rw [List.headD_eq_head?_getD, List.head?_eq_some_head hp, Option.getD_some]
  have hlast : p.getLast? = some last := by
    show _ = some (p.getLastD 0)
    rw [List.getLastD_eq_getLast?, List.getLast?_eq_some_getLast hp, Option.getD_some]
  have l1 : linkOK nw (nodes.take k).getLast? (some first) = true := by
    simp only [k]
    split
    · rfl
    · exact linkOK_keepPrefix nw nodes first
  have l2 : linkOK nw (some last) (nodes.drop m).head? = true := by
    simp only [m]
    split
    · rw [List.drop_length]; rfl
    · exact linkOK_keepSuffix nw nodes last
  rw [chainB_append, chainB_append, chainB_take nw nodes k hn, hpc, chainB_drop nw nodes m hn, hhead,
    getLast?_append_of_ne_nil _ hp, hlast, l1, l2]
  rfl

/-- **C01 for insertion** of a connectable path into a valid real tour -/
theorem C01_insert_chain (nw : Network) (hd : C17.DepotTimes nw) (hw : NodesWF' nw) (t t' : Tour)
    (path : List Nat) (rm : Option (List Nat)) (hv : tourValidB nw t = true) (hreal : t.isDummy = false)
    (hpc : chainB nw path = true) (h : insertPath nw true t path = .ok (t', rm)) :
    chainB nw t'.nodes = true := by
  have hspec := C12.C12_insert nw hd hw t path hv t' rm h
  unfold insertSpecB insertRef at hspec
  simp only [Bool.and_eq_true, beq_iff_eq] at hspec
  have hstrip : stripForDummy nw t.isDummy path = path := by simp [stripForDummy, hreal]
  have hne : path ≠ [] := by
    intro e; subst e
    simp [insertPath, insertPlan, stripFirst, stripLast, hreal, idxAt, bind, Except.bind] at h
  rw [hspec.1, hstrip]
  exact chain_insertRef nw t.nodes path hne (tourValidB_real hv hreal).2.2.2.2.1 hpc

/-- what `check_if_sequence_is_removable` guarantees before `remove` closes the gap -/
theorem checkSeqRemovable_gap {nw : Network} {t : Tour} {s e : Nat} (h : checkSeqRemovable nw t s e = .ok ())
    (hs : 0 < s) (he : e < t.nodes.length - 1) :
    nw.canReach (t.nodes.getD (s - 1) 0) (t.nodes.getD (e + 1) 0) = true := by
  obtain ⟨_, h⟩ := else_ok h
  obtain ⟨_, h⟩ := else_ok h
  obtain ⟨_, h⟩ := else_ok h
  obtain ⟨_, h⟩ := else_ok h
  rw [if_pos (by simp [hs, he])] at h
  obtain ⟨a, ha, h⟩ := bind_ok h
  obtain ⟨b, hb, h⟩ := bind_ok h
  obtain ⟨hr, _⟩ := else_ok h
  rw [List.getD_eq_getElem?_getD, List.getD_eq_getElem?_getD, idxAt_inv ha, idxAt_inv hb]
  simpa using hr

/-- **C01 for removal**: what is left of a chain after `Tour::remove` is a chain -/
theorem C01_remove_chain (nw : Network) (t t' : Tour) (a b : Nat) (path : List Nat)
    (hc : chainB nw t.nodes = true) (h : Tour.remove nw t a b = .ok (some t', path)) :
    chainB nw t'.nodes = true := by
  obtain ⟨s, e, _, _, _, _, _, _, rfl, _, _, hchk, hrem, _, _, _, _, _, _, rfl⟩ := remove_ok h
  obtain ⟨h1, h2, _⟩ := C09.slice_inv hrem
  rw [chainB_append, chainB_take nw _ s hc, chainB_drop nw _ (e + 1) hc]
  have hl : linkOK nw (t.nodes.take s).getLast? (t.nodes.drop (e + 1)).head? = true := by
    by_cases hs : s = 0
    · rw [hs]; rfl
    · by_cases he : e + 1 < t.nodes.length
      · rewrite [getLast?_take_getD _ s (Nat.pos_of_ne_zero hs) (Nat.le_trans h1 h2), head?_drop_getD _ _ he]
        exact checkSeqRemovable_gap hchk (Nat.pos_of_ne_zero hs) (Nat.lt_sub_of_add_lt he)
      · rw [List.drop_eq_nil_of_le (Nat.le_of_not_lt he)]
        cases (t.nodes.take s).getLast? <;> rfl
  rw [hl]; rfl

end RSSched.C01
