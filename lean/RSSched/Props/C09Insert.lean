/-
Props/C09Insert: `Tour::insert_path` and `Tour::remove` keep the five cached figures exact (C09,
tour level): if the caches of a tour equal the recomputation from its node list, so do the caches of
the tour after the modification, including the dead-head distance with the overflow depot
(`Infinity` ⇒ recomputed, finding F8) and the visits-maintenance flag.
-/
import RSSched.Lemmas.SegIndex
import RSSched.Props.C09Tour
namespace RSSched.C09
open Network Tour Spec

/-- node durations are finite (holds for every loaded network: start ≤ end are points in time) -/
def DurFinite (nw : Network) : Prop := ∀ i, ∃ n, nw.nodeDur i = Dur.len n

theorem usefulDurOf_ne_inf (nw : Network) (hf : DurFinite nw) (l : List Nat) : nw.usefulDurOf l ≠ Dur.inf := by
  induction l with
  | nil => nofun
  | cons x xs ih =>
    obtain ⟨m, hm⟩ := hf x
    rw [usefulDurOf_cons, hm]
    cases h : nw.usefulDurOf xs with
    | inf => exact absurd h ih
    | len n => nofun

theorem serviceDistOf_ne_inf (nw : Network) (l : List Nat) : nw.serviceDistOf l ≠ Dist.inf := by
  induction l with
  | nil => nofun
  | cons x xs ih =>
    rw [serviceDistOf_cons]
    cases h : nw.serviceDistOf xs with
    | inf => exact absurd h ih
    | d n => nofun

/-- the boolean identity behind the visits-maintenance flag -/
theorem vm_identity (p o s n : Bool) :
    (n || ((p || o || s) && (!o || (p || n || s)))) = (p || n || s) := by
  cases p <;> cases o <;> cases s <;> cases n <;> rfl

/-- the delta updates of tour/modifications.rs: taking the figures of `old` out and putting those of
    `new` in gives the figures of `pre ++ new ++ suf` (`new = []` is `Tour::remove`) -/
theorem splice_exact (nw : Network) (hf : DurFinite nw) {t : Tour} (hE : Exact nw t) {pre old suf : List Nat}
    (ht : t.nodes = pre ++ old ++ suf) (new : List Nat) {ud0 : Dur} {sd0 dh0 : Dist} {c0 : Nat}
    (hud : Dur.sub t.usefulDur (nw.usefulDurOf old) = .ok ud0)
    (hsd : Dist.sub t.serviceDist (nw.serviceDistOf old) = .ok sd0)
    (hdh : Dist.sub t.dhDist (nw.segD pre old suf) = .ok dh0)
    (hc : subNat t.costs (nw.segC pre old suf) "costs underflow" = .ok c0) :
    (nw.visitsMaintOf new || (t.visitsMaint &&
        (!(nw.visitsMaintOf old) || nw.visitsMaintOf (pre ++ new ++ suf)))) = nw.visitsMaintOf (pre ++ new ++ suf) ∧
    Dur.add ud0 (nw.usefulDurOf new) = nw.usefulDurOf (pre ++ new ++ suf) ∧
    Dist.add sd0 (nw.serviceDistOf new) = nw.serviceDistOf (pre ++ new ++ suf) ∧
    (if t.dhDist == .inf then nw.dhDistOf (pre ++ new ++ suf) else Dist.add dh0 (nw.segD pre new suf))
      = nw.dhDistOf (pre ++ new ++ suf) ∧
    c0 + nw.segC pre new suf = nw.costsOf (pre ++ new ++ suf) := by
  refine ⟨?_, ?_, ?_, ?_, ?_⟩
  · rw [hE.vm, ht]
    simp only [visitsMaintOf, List.any_append]
    exact vm_identity _ _ _ _
  · exact usefulDurOf_delta nw pre old new suf (ht ▸ hE.ud) (hE.ud ▸ usefulDurOf_ne_inf nw hf _) hud
  · exact serviceDistOf_delta nw pre old new suf (ht ▸ hE.sd) (hE.sd ▸ serviceDistOf_ne_inf nw _) hsd
  · split
    · rfl
    · rename_i hinf
      exact dhDistOf_delta nw pre old new suf (ht ▸ hE.dh) (by simpa using hinf) hdh
  · rw [(subNat_ok hc).2]
    exact costsOf_delta nw pre old new suf (ht ▸ hE.co)

theorem C09_insertCaches (nw : Network) (hf : DurFinite nw) (t : Tour) (hE : Exact nw t)
    (pre old suf newNodes : List Nat) (ht : t.nodes = pre ++ old ++ suf) (hn : newNodes ≠ [])
    (s e : Nat) (tn : List Nat) (hs : s = pre.length) (he : e = pre.length + old.length)
    (htn : tn = pre ++ newNodes ++ suf)
    (vm : Bool) (ud : Dur) (sd dh : Dist) (c : Nat)
    (h : insertCaches nw t { newNodes, s, e, old, tourNodes := tn } = .ok (vm, ud, sd, dh, c)) :
    vm = nw.visitsMaintOf (pre ++ newNodes ++ suf) ∧ ud = nw.usefulDurOf (pre ++ newNodes ++ suf) ∧
    sd = nw.serviceDistOf (pre ++ newNodes ++ suf) ∧ dh = nw.dhDistOf (pre ++ newNodes ++ suf) ∧
    c = nw.costsOf (pre ++ newNodes ++ suf) := by
  subst hs he htn
  unfold insertCaches at h
  dsimp only at h
  obtain ⟨ud0, hud0, h⟩ := bind_ok h
  obtain ⟨sd0, hsd0, h⟩ := bind_ok h
  obtain ⟨_, hsegD, h⟩ := bind_ok h
  obtain ⟨dh0, hdh0, h⟩ := bind_ok h
  obtain ⟨_, hnewD, h⟩ := bind_ok h
  obtain ⟨_, hsegC, h⟩ := bind_ok h
  obtain ⟨c0, hc0, h⟩ := bind_ok h
  obtain ⟨_, hnewC, h⟩ := bind_ok h
  cases (dhDistOfSegment_eq nw t pre old suf ht).symm.trans hsegD
  cases (dhDistOfNewNodes_eq nw t pre old suf newNodes ht hn).symm.trans hnewD
  cases (costsOfSegment_eq nw t pre old suf ht).symm.trans hsegC
  cases (costsOfNewNodes_eq nw t pre old suf newNodes ht hn).symm.trans hnewC
  cases h
  exact splice_exact nw hf hE ht newNodes hud0 hsd0 hdh0 hc0

/-- C09 for `Tour::insert_path`, either comparison mode -/
theorem C09_insertPath (nw : Network) (hf : DurFinite nw) (strict : Bool) (t t' : Tour) (path : List Nat)
    (removed : Option (List Nat)) (hE : Exact nw t)
    (h : insertPath nw strict t path = .ok (t', removed)) : Exact nw t' := by
  obtain ⟨pl, ⟨vm, ud, sd, dh, co⟩, hpl, hc, rfl, _⟩ := insertPath_ok h
  obtain ⟨_, first, _, _, _, hfirst, _, _, hold, htn⟩ := insertPlan_ok hpl
  obtain ⟨hparts, hl1, hl2, h1⟩ := slice_parts hold
  have hn : pl.newNodes ≠ [] := by
    intro e
    have := idxAt_inv hfirst
    rw [e] at this
    cases this
  obtain ⟨e1, e2, e3, e4, e5⟩ := C09_insertCaches nw hf t hE _ pl.old _ pl.newNodes hparts hn pl.s pl.e _
    hl1.symm (by omega) htn vm ud sd dh co hc
  rw [htn]
  exact ⟨e1, e2, e3, e4, e5⟩

theorem checkSeqRemovable_le {nw : Network} {t : Tour} {s e : Nat} (h : checkSeqRemovable nw t s e = .ok ()) :
    s ≤ e := by
  obtain ⟨_, h⟩ := else_ok h
  obtain ⟨_, h⟩ := else_ok h
  obtain ⟨_, h⟩ := else_ok h
  obtain ⟨hse, _⟩ := else_ok h
  exact Nat.le_of_not_lt hse

/-- C09 for `Tour::remove` -/
theorem C09_remove (nw : Network) (hf : DurFinite nw) (t t' : Tour) (a b : Nat) (path : List Nat)
    (hE : Exact nw t) (h : Tour.remove nw t a b = .ok (some t', path)) : Exact nw t' := by
  obtain ⟨s, e, removed, _, ud, sd, _, _, rfl, _, _, hchk, hrem, _, hud, hsd, ⟨_, dh0, _, hseg, hdh0, hgapD, rfl⟩,
    ⟨_, c0, _, hcseg, hc0, hgapC, rfl⟩, _, rfl⟩ := remove_ok h
  have hse := checkSeqRemovable_le hchk
  obtain ⟨hparts, hl1, hl2, _⟩ := slice_parts hrem
  generalize t.nodes.take s = pre at *
  generalize t.nodes.drop (e + 1) = suf at *
  subst hl1
  obtain ⟨he1, hee, hpos⟩ : e + 1 = pre.length + removed.length ∧ e = pre.length + removed.length - 1 ∧
      0 < removed.length := by omega
  have hmne := List.ne_nil_of_length_pos hpos
  rw [he1, dhDistOfSegment_eq nw t pre removed suf hparts] at hseg
  rw [he1, costsOfSegment_eq nw t pre removed suf hparts] at hcseg
  rw [hparts, hee, gapDist_eq nw pre removed suf hmne] at hgapD
  rw [hparts, hee, gapCost_eq nw pre removed suf hmne] at hgapC
  cases hseg; cases hcseg; cases hgapD; cases hgapC
  obtain ⟨e1, e2, e3, e4, e5⟩ := splice_exact nw hf hE hparts [] hud hsd hdh0 hc0
  simp only [List.append_nil] at e1 e2 e3 e4 e5
  exact ⟨e1, (Dur.add_zero_right ud).symm.trans e2, (Dist.add_zero_right sd).symm.trans e3, e4, e5⟩

/-- **C09, tour half** (`C09_tour_statement` of Props/C09, for either comparison mode): on a valid
    tour with exact caches every modification of tour/modifications.rs returns one with exact caches -/
theorem C09_tour (nw : Network) (hf : DurFinite nw) (hz : DepotDistZero nw) (t : Tour)
    (hv : tourValidB nw t = true) (hE : tourCachesExactB nw t = true) :
    (∀ d t', replaceStartDepot nw t d = .ok t' → tourCachesExactB nw t' = true) ∧
    (∀ d t', replaceEndDepot nw t d = .ok t' → tourCachesExactB nw t' = true) ∧
    (∀ a b t' rm, Tour.remove nw t a b = .ok (some t', rm) → tourCachesExactB nw t' = true) ∧
    (∀ strict p t' rm, insertPath nw strict t p = .ok (t', rm) → tourCachesExactB nw t' = true) := by
  have hx := (exact_iff nw t).mp hE
  refine ⟨?_, ?_, ?_, ?_⟩
  · intro d t' h
    exact (exact_iff nw t').mpr
      (C09_replaceStartDepot nw hz t t' d hx (tourValidB_real hv (replaceStartDepot_ok h).1).2.1 h)
  · intro d t' h
    exact (exact_iff nw t').mpr
      (C09_replaceEndDepot nw hz t t' d hx (tourValidB_real hv (replaceEndDepot_ok h).1).2.2.1 h)
  · intro a b t' rm h
    exact (exact_iff nw t').mpr (C09_remove nw hf t t' a b rm hx h)
  · intro strict p t' rm h
    exact (exact_iff nw t').mpr (C09_insertPath nw hf strict t t' p rm hx h)

/-- the hypotheses of `C09_tour` are decidable on a loaded network: the driver evaluates `netHypsB`
    on every network of a run (STAT `c09.nethyps`) -/
theorem netHyps_sound (nw : Network) (h : netHypsB nw = true) : DepotDistZero nw ∧ DurFinite nw := by
  unfold netHypsB at h
  have hall := List.all_eq_true.mp h
  have hdef_depot : (default : Node).isDepot = true := by decide
  have hnode : ∀ i, i < nw.nodes.size ∨ nw.node i = default := by
    intro i
    by_cases hi : i < nw.nodes.size
    · exact Or.inl hi
    · right; unfold Network.node; simp [Array.getD, hi]
  constructor
  · intro i hd
    rcases hnode i with hi | hi
    · have := hall i (by simp [Network.allIdx, hi])
      simp only [Bool.and_eq_true, Bool.or_eq_true, Bool.not_eq_eq_eq_not, Bool.not_true, beq_iff_eq] at this
      rcases this.1 with h0 | h0
      · rw [hd] at h0; cases h0
      · exact h0
    · rw [hi]; rfl
  · intro i
    rcases hnode i with hi | hi
    · have := hall i (by simp [Network.allIdx, hi])
      simp only [Bool.and_eq_true] at this
      cases hd : nw.nodeDur i with
      | len n => exact ⟨n, rfl⟩
      | inf => rw [hd] at this; simp at this
    · refine ⟨0, ?_⟩
      unfold Network.nodeDur Node.duration
      rw [hi]; simp [hdef_depot, Dur.zero]

end RSSched.C09
