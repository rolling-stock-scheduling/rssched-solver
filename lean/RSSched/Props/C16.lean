/-
Props/C16: the returned schedule is the product of all pipeline stages.
-/
import RSSched.Model.Pipeline
namespace RSSched.C16

/-- the answer is the serialisation of: start solution, improved by the local search (when there
    are maintenance slots), carrying the optimiser's transitions, end depots then aligned -/
theorem C16_wiring {I S T O} (p : PipelineStages I S T O) (i : I) :
    let tr := solveTrace p false i
    tr.out = p.output tr.final ∧
    tr.final = p.alignEndDepots tr.withTransitions ∧
    tr.withTransitions = p.setTransitions tr.afterSearch tr.optimised ∧
    tr.optimised = p.optimise tr.afterSearch ∧
    tr.afterSearch = (if p.maintenance i then p.localSearch tr.start else tr.start) ∧
    tr.start = p.improveDepots (p.mcf i) := by
  simp [solveTrace]

/-- no stage's result is discarded: if the alignment preserves what the optimiser chose (as
    `cycles`), the final schedule carries exactly the optimiser's choice -/
theorem C16_carries_optimised {I S T O C} (p : PipelineStages I S T O) (i : I)
    (cycles : S → C) (chosen : T → C)
    (hset : ∀ s t, cycles (p.setTransitions s t) = chosen t)
    (halign : ∀ s, cycles (p.alignEndDepots s) = cycles s) :
    cycles (solveTrace p false i).final = chosen (solveTrace p false i).optimised := by
  simp [solveTrace, halign, hset]

def demo : PipelineStages Unit (Nat × Nat) Nat (Nat × Nat) :=
  { mcf := fun _ => (0, 7), improveDepots := id, maintenance := fun _ => true,
    localSearch := fun s => (s.1 + 1, s.2), optimise := fun _ => 42,
    setTransitions := fun s t => (s.1, t), alignEndDepots := id, output := id }

/-- F6: the pinned wiring loses the optimiser's result — a concrete instance of the stages where
    the repaired pipeline reports the optimised cycles and the pinned one the stale ones -/
theorem F6_pinned_discards_optimised :
    (solveTrace demo false ()).out = (1, 42) ∧ (solveTrace demo true ()).out = (1, 7) := by
  decide

end RSSched.C16
