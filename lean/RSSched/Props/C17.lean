/-
Props/C17: the loaded network encodes the instance; reachability and the enumerations are exact.
All theorems are about the queries `Network.*` of Model/Network.lean (reachability, successors and
predecessors, depot capacities, formation limits), which the `net` scope compares query by query
with the real loader on every run.
-/
import RSSched.Model.Network
namespace RSSched.C17
open Network

/-- required turnaround between two activities: minimal shunting when staying at the same
    location, dead-head travel time plus dead-head shunting on each non-depot side otherwise -/
def Turnaround (nw : Network) (n1 n2 : Node) : Dur :=
  if n1.endLoc = n2.startLoc then
    (if isActivity n1 && isActivity n2 then Dur.len nw.shuntMin else Dur.len 0)
  else
    Dur.add (nw.travelTime n1.endLoc n2.startLoc)
      (Dur.add (if isActivity n1 then Dur.len nw.shuntDH else Dur.len 0)
               (if isActivity n2 then Dur.len nw.shuntDH else Dur.len 0))

/-- "One activity can reach another exactly when the documented timing rule holds." -/
def ReachSpec (nw : Network) (n1 n2 : Node) : Prop :=
  n2.kind ≠ .startDepot ∧ n1.kind ≠ .endDepot ∧
  (n1.kind = .startDepot ∨ n2.kind = .endDepot ∨
    ((nw.forbidDH = true → n1.endLoc = n2.startLoc) ∧
      ExtTime.le (ExtTime.add n1.endT (Turnaround nw n1 n2)) n2.startT = true))

theorem C17_reach (nw : Network) (n1 n2 : Node) :
    nw.canReachNodes n1 n2 = true ↔ ReachSpec nw n1 n2 := by
  unfold canReachNodes ReachSpec Turnaround minDurNodes shuntNoDH shuntWithDH
    Node.isStartDepot Node.isEndDepot
  cases h1 : n1.kind <;> cases h2 : n2.kind <;> cases hf : nw.forbidDH <;>
    by_cases hl : n1.endLoc = n2.startLoc <;> simp_all

theorem ExtTime.le_refl (t : ExtTime) : ExtTime.le t t = true := by
  cases t <;> simp [ExtTime.le]

theorem ExtTime.le_trans {a b c : ExtTime} (h1 : ExtTime.le a b = true) (h2 : ExtTime.le b c = true) :
    ExtTime.le a c = true := by
  cases a <;> cases b <;> cases c <;> simp_all [ExtTime.le] <;> omega

theorem ExtTime.le_add (t : ExtTime) (d : Dur) : ExtTime.le t (ExtTime.add t d) = true := by
  cases t <;> cases d <;> simp [ExtTime.le, ExtTime.add]

theorem ExtTime.le_antisymm {a b : ExtTime} (h1 : ExtTime.le a b = true) (h2 : ExtTime.le b a = true) :
    a = b := by
  cases a <;> cases b <;> simp_all [ExtTime.le] <;> omega

theorem ExtTime.le_total (a b : ExtTime) : ExtTime.le a b = true ∨ ExtTime.le b a = true := by
  cases a <;> cases b <;> simp [ExtTime.le] <;> omega

/-- depot nodes of a network carry the artificial times of `Node::start_time`/`end_time` -/
structure DepotTimes (nw : Network) : Prop where
  start : ∀ i, (nw.node i).kind = .startDepot → (nw.node i).endT = .earliest
  stop : ∀ i, (nw.node i).kind = .endDepot → (nw.node i).startT = .latest

theorem reach_end_le_start (nw : Network) (hd : DepotTimes nw) (a b : Nat)
    (h : nw.canReach a b = true) : ExtTime.le (nw.node a).endT (nw.node b).startT = true := by
  unfold canReach canReachNodes at h
  by_cases hs : (nw.node a).kind = .startDepot
  · rw [hd.start a hs]; simp [ExtTime.le]
  · by_cases he : (nw.node b).kind = .endDepot
    · rw [hd.stop b he]; cases (nw.node a).endT <;> simp [ExtTime.le]
    · simp [Node.isStartDepot, Node.isEndDepot, hs, he] at h
      exact ExtTime.le_trans (ExtTime.le_add _ _) h.2.2

/-- the per-type index the enumerations range over: service trips of the type, all maintenance
    slots, all depot nodes -/
def InIndex (nw : Network) (vt i : Nat) : Prop :=
  i < nw.size ∧ nw.inTypeIndex vt i = true

instance (nw : Network) (vt i : Nat) : Decidable (InIndex nw vt i) := by
  unfold InIndex; infer_instance

theorem mem_typeIndex (nw : Network) (vt i : Nat) : i ∈ nw.typeIndex vt ↔ InIndex nw vt i := by
  simp [typeIndex, allIdx, InIndex, size]

theorem keyLt_smallest_false (t : ExtTime) (n : Node) (t' : ExtTime)
    (h : ExtTime.le t' t = true) : keyLt t n t' smallestNode = false := by
  unfold keyLt ExtTime.lt nodeKeyLt smallestNode
  cases hk : n.kind <;> simp [Kind.rank] <;> intro h1 <;> exact ExtTime.le_antisymm h1 h

/-- **C17**: successors are exact, ties included -/
theorem C17_succ_exact (nw : Network) (hd : DepotTimes nw) (vt a b : Nat) :
    b ∈ nw.successors vt a ↔ InIndex nw vt b ∧ nw.canReach a b = true := by
  unfold successors typeNodesSortedByStart
  simp only [List.mem_filter, List.mem_mergeSort, mem_typeIndex]
  constructor
  · rintro ⟨⟨hi, _⟩, hr⟩; exact ⟨hi, hr⟩
  · rintro ⟨hi, hr⟩
    refine ⟨⟨hi, ?_⟩, hr⟩
    simp [keyLt_smallest_false _ _ _ (reach_end_le_start nw hd a b hr)]

theorem keyLt_largest_false (t : ExtTime) (n : Node) (t' : ExtTime)
    (h : ExtTime.le t t' = true) (hidx : n.idx ≤ 65535) : keyLt t' largestNode t n = false := by
  unfold keyLt ExtTime.lt nodeKeyLt largestNode
  cases hk : n.kind <;> simp [Kind.rank] <;>
    first
      | (intro h1; exact ExtTime.le_antisymm h1 h)
      | (exact ⟨fun h1 => ExtTime.le_antisymm h1 h, fun _ => hidx⟩)

/-- **C17**: predecessors are exact, ties included, for node indices that fit the 16-bit `Idx` -/
theorem C17_pred_exact (nw : Network) (hd : DepotTimes nw) (vt a b : Nat)
    (hidx : (nw.node a).idx ≤ 65535) :
    a ∈ nw.predecessors vt b ↔ InIndex nw vt a ∧ nw.canReach a b = true := by
  unfold predecessors typeNodesSortedByEnd
  simp only [List.mem_filter, List.mem_mergeSort, mem_typeIndex]
  constructor
  · rintro ⟨⟨hi, _⟩, hr⟩; exact ⟨hi, hr⟩
  · rintro ⟨hi, hr⟩
    refine ⟨⟨hi, ?_⟩, hr⟩
    simp [keyLt_largest_false _ _ _ (reach_end_le_start nw hd a b hr) hidx]

theorem C17_capacity_le_total (d : Depot) (vt : Nat) : depotCapacityFor d vt ≤ d.total := by
  unfold depotCapacityFor
  split <;> simp [Nat.min_def] <;> split <;> omega

theorem C17_capacity_unlisted (d : Depot) (vt : Nat) (h : assocGet? d.allowed vt = none) :
    depotCapacityFor d vt = 0 := by
  simp [depotCapacityFor, h]

theorem C17_capacity_listed (d : Depot) (vt c : Nat) (h : assocGet? d.allowed vt = some (some c)) :
    depotCapacityFor d vt = Nat.min c d.total := by
  simp [depotCapacityFor, h]

theorem C17_capacity_unlimited (d : Depot) (vt : Nat) (h : assocGet? d.allowed vt = some none) :
    depotCapacityFor d vt = d.total := by
  simp [depotCapacityFor, h]

/-- C02: a formation bound given on the type or on the segment binds -/
theorem C02_limit_fn (nw : Network) (trip : Nat) :
    nw.maxFormationFor trip = optMin (nw.vtype (nw.node trip).vt).maxForm (nw.node trip).maxForm := rfl

theorem optMin_le_left (a b : Option Nat) (x : Nat) (h : a = some x) :
    ∃ y, optMin a b = some y ∧ y ≤ x := by
  subst h; cases b <;> simp [optMin, Nat.min_def]; split <;> omega

theorem optMin_le_right (a b : Option Nat) (x : Nat) (h : b = some x) :
    ∃ y, optMin a b = some y ∧ y ≤ x := by
  subst h; cases a <;> simp [optMin, Nat.min_def]; split <;> omega

/-- two back-to-back trips X→Y 10:00–10:30 and Y→X 10:30–11:00, zero shunting -/
def tieNet : Network :=
  { nodes := #[
      { kind := .startDepot, idx := 0, startT := .earliest, endT := .earliest, startLoc := .station 0, endLoc := .station 0 },
      { kind := .endDepot, idx := 1, startT := .latest, endT := .latest, startLoc := .station 0, endLoc := .station 0 },
      { kind := .service, idx := 2, startT := .point 36000, endT := .point 37800, startLoc := .station 0, endLoc := .station 1 },
      { kind := .service, idx := 3, startT := .point 37800, endT := .point 39600, startLoc := .station 1, endLoc := .station 0 } ],
    vtypes := #[{ capacity := 10, seats := 10, maxForm := none }],
    depots := #[], nLocs := 2, dhDur := [(0, [(0, 0), (1, 0)]), (1, [(0, 0), (1, 0)])],
    dhDist := [(0, [(0, 0), (1, 0)]), (1, [(0, 0), (1, 0)])],
    forbidDH := false, shuntMin := 0, shuntDH := 0, maxDist := 0,
    cStaff := 0, cService := 0, cMaint := 0, cDH := 0, cIdle := 0, planning := 86400 }

/-- F1: with the pinned exclusive bound the tie predecessor is lost although it can reach -/
theorem F1_pinned_predecessors_miss_tie :
    tieNet.canReach 2 3 = true ∧ 2 ∉ tieNet.predecessorsPinned 0 3 ∧ 2 ∈ tieNet.predecessors 0 3 := by
  refine ⟨by decide, ?_, ?_⟩
  · simp only [predecessorsPinned, typeNodesSortedByEnd, List.mem_filter, List.mem_mergeSort,
      mem_typeIndex]
    decide
  · simp only [predecessors, typeNodesSortedByEnd, List.mem_filter, List.mem_mergeSort,
      mem_typeIndex]
    decide

/-- F3: a limit given only on the route segment was ignored by the pinned function -/
theorem F3_pinned_ignores_segment_limit :
    (optMin none (some 1) = some 1) ∧ ((none : Option Nat).map (fun l => Nat.min l ((some 1 : Option Nat).getD l)) = none) := by
  decide

/-- non-vacuity of `DepotTimes` -/
theorem tieNet_depotTimes : DepotTimes tieNet := by
  have hdef : ∀ n, tieNet.node (n + 4) = default := fun n => by simp [tieNet, Network.node]
  constructor <;> intro i <;> match i with
  | 0 | 1 | 2 | 3 => decide
  | n + 4 => rw [hdef n]; decide

example : 2 ∈ tieNet.predecessors 0 3 :=
  (C17_pred_exact tieNet tieNet_depotTimes 0 2 3 (by decide)).mpr (by decide)

end RSSched.C17
