/-
Props/C15Search: the rotation-cycle optimisation only ever evaluates transitions whose bookkeeping
is exact. Every 3-opt candidate of the cycle TSP is a reordering of the cycle with an exact counter,
and every neighbour of the transition local search (exchange / move between two cycles, then
re-optimisation of both) is `Consistent` with the same vehicles and the same number of cycles.
-/
import RSSched.Props.C15Ops
import RSSched.Props.C06
import RSSched.Model.TransitionSearch
namespace RSSched.C15

def CycleOK (nw : Network) (T : TourMap) (c : Cycle) : Prop := c.counter = counterSpec nw T c.vehicles

theorem tspImprove_ok (nw : Network) (tours : Tours) (c c' : Cycle) (hc : CycleOK nw (overlay [] tours) c)
    (h : TransSearch.tspImprove nw tours c = .ok (some c')) :
    c'.vehicles.Perm c.vehicles ∧ CycleOK nw (overlay [] tours) c' ∧ c'.counter < c.counter := by
  unfold TransSearch.tspImprove at h
  obtain ⟨cands, hcands, h⟩ := bind_ok h
  cases cands with
  | nil => cases h
  | cons x xs =>
    simp only [pure, Except.pure, Except.ok.injEq] at h
    split at h
    · rename_i hlt
      simp only [Option.some.injEq] at h
      have hmem := C08.foldl_pick_mem (fun y b : Cycle => y.counter < b.counter) xs x
      rw [h] at hmem hlt
      obtain ⟨⟨i, j, k⟩, htri, hres⟩ := mapMR_mem hcands c' hmem
      obtain ⟨h1, h2, h3⟩ := C06.C06_nbhd_finite _ (i, j, k) htri
      obtain ⟨hv, hcnt⟩ := threeOpt_exact nw c c' i j k tours hc h1 h2 hres
      refine ⟨?_, hcnt, hlt⟩
      rw [hv]; exact C15_threeOpt_perm c.vehicles i j k h1 h2 h3
    · cases h

/-- the cycle TSP, for any fuel: a reordering with exact counter, never worse -/
theorem tspSolve_ok (nw : Network) (tours : Tours) : ∀ (fuel : Nat) (c c' : Cycle),
    CycleOK nw (overlay [] tours) c → TransSearch.tspSolve nw tours fuel c = .ok c' →
    c'.vehicles.Perm c.vehicles ∧ CycleOK nw (overlay [] tours) c' ∧ c'.counter ≤ c.counter
  | 0, c, c', hc, h => by
    simp only [TransSearch.tspSolve, pure, Except.pure, Except.ok.injEq] at h
    subst h; exact ⟨List.Perm.refl _, hc, Int.le_refl _⟩
  | fuel + 1, c, c', hc, h => by
    unfold TransSearch.tspSolve at h
    obtain ⟨o, ho, h⟩ := bind_ok h
    cases o with
    | none =>
      simp only [pure, Except.pure, Except.ok.injEq] at h
      subst h; exact ⟨List.Perm.refl _, hc, Int.le_refl _⟩
    | some c1 =>
      obtain ⟨p1, ok1, lt1⟩ := tspImprove_ok nw tours c c1 hc ho
      obtain ⟨p2, ok2, le2⟩ := tspSolve_ok nw tours fuel c1 c' ok1 h
      exact ⟨p2.trans p1, ok2, by omega⟩

theorem reoptimise_consistent (nw : Network) (tours : Tours) (tr tr' : Transition) (i j : Nat)
    (hc : Consistent nw (overlay [] tours) tr) (h : TransSearch.reoptimise nw tours tr i j = .ok tr') :
    Consistent nw (overlay [] tours) tr' ∧ (∀ w, w ∈ members tr' ↔ w ∈ members tr) ∧
    tr'.cycles.length = tr.cycles.length := by
  unfold TransSearch.reoptimise at h
  obtain ⟨ci, hci, h⟩ := bind_ok h
  obtain ⟨ci', hci', h⟩ := bind_ok h
  obtain ⟨t1, ht1, h⟩ := bind_ok h
  obtain ⟨cj, hcj, h⟩ := bind_ok h
  obtain ⟨cj', hcj', h⟩ := bind_ok h
  have hci := unwrapO_ok hci
  have hcj := unwrapO_ok hcj
  obtain ⟨p1, ok1, _⟩ := tspSolve_ok nw tours 200 ci ci' (hc.counter i ci hci) hci'
  obtain ⟨hc1, hm1, hl1⟩ := replace_consistent nw _ tr t1 i ci ci' hc hci p1 ok1 ht1
  obtain ⟨p2, ok2, _⟩ := tspSolve_ok nw tours 200 cj cj' (hc1.counter j cj hcj) hcj'
  obtain ⟨hc2, hm2, hl2⟩ := replace_consistent nw _ t1 tr' j cj cj' hc1 hcj p2 ok2 h
  exact ⟨hc2, fun w => (hm2 w).trans (hm1 w), by omega⟩

/-- **C15** for the transition local search (`TransitionNeighborhood::neighbors_of`) -/
theorem neighbors_consistent (nw : Network) (tours : Tours) (tr : Transition) (l : List Transition)
    (hc : Consistent nw (overlay [] tours) tr) (h : TransSearch.neighbors nw tours tr = .ok l) :
    ∀ t ∈ l, Consistent nw (overlay [] tours) t ∧ (∀ w, w ∈ members t ↔ w ∈ members tr) ∧
      t.cycles.length = tr.cycles.length := by
  unfold TransSearch.neighbors at h
  dsimp only at h
  obtain ⟨cands, hcands, h⟩ := bind_ok h
  simp only [pure, Except.pure, Except.ok.injEq] at h
  subst h
  intro t ht
  obtain ⟨inner, hinner, htin⟩ := List.mem_flatten.mp ht
  obtain ⟨⟨i, j⟩, _, hij⟩ := mapMR_mem hcands inner hinner
  dsimp only at hij
  obtain ⟨⟨a, b⟩, _, hab⟩ := mapMR_mem hij t htin
  have key : ∃ moved, (Consistent nw (overlay [] tours) moved ∧ (∀ w, w ∈ members moved ↔ w ∈ members tr) ∧
      moved.cycles.length = tr.cycles.length) ∧ TransSearch.reoptimise nw tours moved i j = .ok t := by
    cases a with
    | none =>
      cases b with
      | none =>
        obtain ⟨moved, hmoved, hre⟩ := bind_ok hab
        simp only [pure, Except.pure, Except.ok.injEq] at hmoved
        subst hmoved; exact ⟨_, ⟨hc, fun _ => Iff.rfl, rfl⟩, hre⟩
      | some b =>
        obtain ⟨moved, hmoved, hre⟩ := bind_ok hab
        exact ⟨_, move_consistent nw tr moved b i tours hc hmoved, hre⟩
    | some a =>
      cases b with
      | none =>
        obtain ⟨moved, hmoved, hre⟩ := bind_ok hab
        exact ⟨_, move_consistent nw tr moved a j tours hc hmoved, hre⟩
      | some b =>
        obtain ⟨t1, ht1, hab⟩ := bind_ok hab
        obtain ⟨moved, hmoved, hre⟩ := bind_ok hab
        obtain ⟨c1, m1, l1⟩ := move_consistent nw tr t1 a j tours hc ht1
        obtain ⟨c2, m2, l2⟩ := move_consistent nw t1 moved b i tours c1 hmoved
        exact ⟨_, ⟨c2, fun w => (m2 w).trans (m1 w), by omega⟩, hre⟩
  obtain ⟨moved, hmv, hre⟩ := key
  obtain ⟨c3, m3, l3⟩ := reoptimise_consistent nw tours moved t i j hmv.1 hre
  exact ⟨c3, fun w => (m3 w).trans (hmv.2.1 w), by omega⟩

end RSSched.C15
