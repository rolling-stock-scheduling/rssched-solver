/-
Props/C13Effects: the schedule-level half of C13 for the model. (1) Every public modification touches
the vehicle and tour entries of a short list of vehicles only (`touched`): "all other vehicles' tours
stay untouched". (2) The exact effect of `override_reassign`, `remove_segment` and
`add_path_to_vehicle_tour` on the entries they do touch, in terms of the tour functions whose node-level
reference semantics is Props/C12 (`C12_remove_ok`, `C12_insert`); for `fit_reassign` the effect is
stated in counting form.
-/
import RSSched.Props.C10Cycles
namespace RSSched.C13E
open RSSched Schedule Spec C13 C10T C10L C09C C10S C10F C10Fit C10U C10Cyc C10Lim

/-- the vehicles whose entries a modification may change -/
def touched (nw : Network) (s : Schedule) : SOp → List Veh
  | .spawn _ _ => [Veh.real s.counter]
  | .dummySpawn _ _ => [Veh.real s.counter]
  | .delete v => [v]
  | .addPath v _ => [v]
  | .rmSeg v _ _ => [v]
  | .fit p r _ _ => [p, r]
  | .override p r _ _ => [p, r]
  | .improve (some ids) => ids
  | .improve none => s.vehiclesAll nw
  | .endGreedy => s.vehiclesAll nw
  | .endConsistent => s.vehiclesAll nw
  | .recompute _ => []
  | .setTrans _ _ _ => []
  | .init => []

def Same (s s' : Schedule) (w : Veh) : Prop :=
  assocGet? s'.tours w = assocGet? s.tours w ∧ assocGet? s'.vehicles w = assocGet? s.vehicles w

theorem spawn_others {nw : Network} {s s' : Schedule} {vt : Nat} {path : List Nat} {v : Veh}
    (h : spawnVehicleForPath nw s vt path = .ok (s', v)) : ∀ w, w ≠ Veh.real s.counter → Same s s' w := by
  obtain ⟨r, rfl⟩ := spawnVehicleForPath_ok h
  intro w hw
  rw [← r.veh_eq] at hw
  exact ⟨get_set_ne _ _ _ _ hw, get_set_ne _ _ _ _ hw⟩

theorem dummySpawn_others {nw : Network} {s s' : Schedule} {d : Veh} {vt : Nat} {v : Veh}
    (h : spawnToReplaceDummy nw s d vt = .ok (s', v)) : ∀ w, w ≠ Veh.real s.counter → Same s s' w := by
  obtain ⟨_, s1, -, -, hdel, hspawn⟩ := spawnToReplaceDummy_ok h
  obtain ⟨-, -, rfl⟩ := deleteDummy_ok hdel
  have hs := spawn_others hspawn
  exact hs

theorem delete_others {nw : Network} {s s' : Schedule} {v : Veh}
    (h : replaceVehicleByDummy nw s v = .ok s') : ∀ w, w ≠ v → Same s s' w := by
  obtain ⟨r, rfl⟩ := replaceVehicleByDummy_ok h
  exact fun w hw => ⟨get_erase_ne _ _ _ hw, get_erase_ne _ _ _ hw⟩

theorem addPath_others {nw : Network} {s s' : Schedule} {v : Veh} {path : List Nat} {rm : Option (List Nat)}
    (h : addPathToVehicleTour nw s v path = .ok (s', rm)) : ∀ w, w ≠ v → Same s s' w := by
  obtain ⟨r, rfl⟩ := addPathToVehicleTour_ok h
  exact fun w hw => ⟨get_set_ne _ _ _ _ hw, rfl⟩

theorem rmSeg_others {nw : Network} {s s' : Schedule} {v : Veh} {a b : Nat}
    (h : removeSegment nw s v a b = .ok s') : ∀ w, w ≠ v → Same s s' w := by
  obtain ⟨_, shrunk, _, -, -, -, h⟩ := removeSegment_ok h
  cases shrunk with
  | none => exact delete_others h
  | some newTour =>
    obtain ⟨r, rfl⟩ := h
    exact fun w hw => ⟨utc_tours_ne r.tours_eq w hw, rfl⟩

theorem fit_others {nw : Network} {s s' : Schedule} {p r : Veh} {a b : Nat}
    (h : fitReassign nw s p r a b = .ok s') : ∀ w, w ≠ p → w ≠ r → Same s s' w := by
  obtain ⟨x, rfl⟩ := fitReassign_ok h
  exact fun w hp hr => ⟨updateTours_tours_ne x.update_eq w hp hr, updateTours_vehicles_ne x.update_eq w hp⟩

theorem override_others {nw : Network} {s s' : Schedule} {p r : Veh} {a b : Nat} {d : Option Veh}
    (h : overrideReassign nw s p r a b = .ok (s', d)) : ∀ w, w ≠ p → w ≠ r → Same s s' w := by
  obtain ⟨_, x, -, rfl⟩ := overrideReassign_ok h
  exact fun w hp hr => ⟨updateTours_tours_ne x.update_eq w hp hr, updateTours_vehicles_ne x.update_eq w hp⟩

theorem improve_others {nw : Network} {s s' : Schedule} {vs : Option (List Veh)}
    (h : improveDepots nw s vs = .ok s') : ∀ w, w ∉ vs.getD (s.vehiclesAll nw) → Same s s' w := by
  have hfr := improve_tours_frame h
  obtain ⟨_, _, _, _, _, _, -, -, -, rfl⟩ := improveDepots_ok h
  exact fun w hw => ⟨hfr w hw, rfl⟩

theorem endGreedy_others {nw : Network} {s s' : Schedule}
    (h : reassignEndDepotsGreedily nw s = .ok s') : ∀ w, w ∉ s.vehiclesAll nw → Same s s' w := by
  obtain ⟨_, _, _, _, _, hfold, -, rfl⟩ := reassignEndDepotsGreedily_ok h
  refine fun w hw => ⟨fold_frame (greedyStep nw s) (fun acc v acc' hs => ?_) _ _ _ hfold w hw, rfl⟩
  obtain ⟨r, rfl⟩ := greedyStep_ok hs
  exact ⟨r.nt, rfl⟩

theorem endConsistent_others {nw : Network} {s s' : Schedule}
    (h : reassignEndDepotsConsistent nw s = .ok s') : ∀ w, w ∉ s.vehiclesAll nw → Same s s' w := by
  have hc := C05.C05_reassign nw s s' h
  exact fun w hw => ⟨hc.2.1 w hw, by rw [hc.2.2.1]⟩

theorem recompute_others {nw : Network} {s s' : Schedule} {vts : Option (List Nat)}
    (h : recomputeTransitionsFor nw s vts = .ok s') : ∀ w, Same s s' w := by
  obtain ⟨_, _, -, rfl⟩ := recomputeTransitionsFor_ok h
  exact fun _ => ⟨rfl, rfl⟩

theorem others_untouched (nw : Network) (s : Schedule) (op : SOp) (r : OpResult) (hop : op ≠ .init)
    (h : applyOp nw s op = .ok r) : ∀ w, w ∉ touched nw s op → Same s r.sched w :=
  applyOp_cases (motive := fun op s' => op ≠ .init → ∀ w, w ∉ touched nw s op → Same s s' w)
    (fun hop => absurd rfl hop)
    (fun _ _ _ _ hs _ w hw => spawn_others hs w (List.ne_of_not_mem_cons hw))
    (fun _ _ _ _ hs _ w hw => dummySpawn_others hs w (List.ne_of_not_mem_cons hw))
    (fun _ _ hs _ w hw => delete_others hs w (List.ne_of_not_mem_cons hw))
    (fun _ _ _ _ _ _ hs _ w hw => addPath_others hs w (List.ne_of_not_mem_cons hw))
    (fun _ _ _ _ hs _ w hw => rmSeg_others hs w (List.ne_of_not_mem_cons hw))
    (fun _ _ _ _ _ hs _ w hw => fit_others hs w (List.ne_of_not_mem_cons hw)
      (List.ne_of_not_mem_cons (List.not_mem_of_not_mem_cons hw)))
    (fun _ _ _ _ _ _ hs _ w hw => override_others hs w (List.ne_of_not_mem_cons hw)
      (List.ne_of_not_mem_cons (List.not_mem_of_not_mem_cons hw)))
    (fun vs _ hs _ w hw => improve_others hs w (match vs, hw with | none, hw => hw | some _, hw => hw))
    (fun _ hs _ => endGreedy_others hs)
    (fun _ _ hs _ w _ => recompute_others hs w)
    (fun _ hs _ => endConsistent_others hs)
    (fun _ _ _ _ _ _ _ _ _ _ => ⟨rfl, rfl⟩)
    h hop

/-- **C13 (others untouched)**: in a schedule with valid listings, a vehicle outside `touched` keeps
    its type and its tour; follows from `others_untouched` -/
theorem C13_others_untouched (nw : Network) (s : Schedule) (op : SOp) (r : OpResult) (hi : ListInv s)
    (hd : DummyInv s) (hop : op ≠ .init) (h : applyOp nw s op = .ok r) :
    ∀ w, w ∉ touched nw s op → Same s r.sched w :=
  others_untouched nw s op r hop h

/-- **C13 (`override_reassign`)**: with a real provider `p ≠ r` and a real receiver, the provider's new
    tour is `Tour.remove` of its old one (the vehicle disappears when nothing is left), the receiver's
    new tour is `Tour.insert_path` of exactly the removed path into its old one -/
theorem C13_override_effect {nw : Network} {s s' : Schedule} {p r : Veh} {a b : Nat} {d : Option Veh}
    (hi : ListInv s) (hd : DummyInv s) (hne : p ≠ r) (hp : s.isVehicle p = true) (hr : s.isVehicle r = true)
    (h : overrideReassign nw s p r a b = .ok (s', d)) :
    ∃ pt rt shrunk path newRecv replaced,
      assocGet? s.tours p = some pt ∧ assocGet? s.tours r = some rt ∧
      Tour.remove nw pt a b = .ok (shrunk, path) ∧
      Tour.insertPath nw true rt path = .ok (newRecv, replaced) ∧
      assocGet? s'.tours r = some newRecv ∧ assocGet? s'.tours p = shrunk ∧
      (shrunk = none → assocGet? s'.vehicles p = none) ∧
      (∀ t, shrunk = some t → assocGet? s'.vehicles p = assocGet? s.vehicles p) ∧
      assocGet? s'.vehicles r = assocGet? s.vehicles r := by
  have hpd := vehicle_not_dummy hi hd hp
  have hrd := vehicle_not_dummy hi hd hr
  obtain ⟨replaced, x, -, rfl⟩ := overrideReassign_ok h
  obtain ⟨hp1, hp2⟩ := updateTours_prov x.update_eq hne hpd hp
  refine ⟨x.pt, x.rt, x.shrunk, x.path, x.newRecv, replaced, tourOf_not_dummy x.prov_eq hpd,
    tourOf_not_dummy x.recv_eq hrd, x.remove_eq, x.insert_eq, updateTours_recv x.update_eq hrd, hp1, hp2,
    fun t e => ?_, updateTours_vehicles_ne x.update_eq r (fun e => hne e.symm)⟩
  show assocGet? x.w.vehicles p = assocGet? s.vehicles p
  rw [C10Lim.updateTours_vehicles x.update_eq, e]
  rfl

/-- **C13 (`add_path_to_vehicle_tour`)**: the vehicle's new tour is `Tour.insert_path` of the given path
    into its old one, the displaced nodes are what the call returns; its type is unchanged -/
theorem C13_addPath_effect {nw : Network} {s s' : Schedule} {v : Veh} {path : List Nat} {rm : Option (List Nat)}
    (h : addPathToVehicleTour nw s v path = .ok (s', rm)) :
    ∃ old newTour, assocGet? s.tours v = some old ∧ Tour.insertPath nw true old path = .ok (newTour, rm) ∧
      assocGet? s'.tours v = some newTour ∧ s'.vehicles = s.vehicles := by
  obtain ⟨r, rfl⟩ := addPathToVehicleTour_ok h
  exact ⟨r.old, r.newTour, r.old_eq, r.insert_eq, get_set_self _ _ _, rfl⟩

theorem delete_effect {nw : Network} {s s' : Schedule} {v : Veh}
    (h : replaceVehicleByDummy nw s v = .ok s') :
    assocGet? s'.tours v = none ∧ assocGet? s'.vehicles v = none := by
  obtain ⟨r, rfl⟩ := replaceVehicleByDummy_ok h
  exact ⟨get_erase_self _ _, get_erase_self _ _⟩

/-- **C13 (`remove_segment`)**: the vehicle's new tour is `Tour.remove` of its old one; a vehicle left
    without activities is replaced by a dummy (it disappears from vehicles and tours) -/
theorem C13_rmSeg_effect {nw : Network} {s s' : Schedule} {v : Veh} {a b : Nat}
    (hi : ListInv s) (hd : DummyInv s) (h : removeSegment nw s v a b = .ok s') :
    ∃ old shrunk removed, assocGet? s.tours v = some old ∧ Tour.remove nw old a b = .ok (shrunk, removed) ∧
      assocGet? s'.tours v = shrunk ∧
      (∀ t, shrunk = some t → s'.vehicles = s.vehicles) ∧ (shrunk = none → assocGet? s'.vehicles v = none) := by
  obtain ⟨tour, shrunk, removed, hv', htour, hrem, h⟩ := removeSegment_ok h
  rw [(tourOf_vehicle hi hv').1] at htour
  refine ⟨tour, shrunk, removed, htour, hrem, ?_⟩
  cases shrunk with
  | none =>
    obtain ⟨hT, hV⟩ := delete_effect h
    exact ⟨hT, fun _ e => (nomatch e), fun _ => hV⟩
  | some newTour =>
    obtain ⟨r, rfl⟩ := h
    have htours : r.tours = assocSet s.tours v newTour := utc_vehicle hi hd hv' r.tours_eq
    refine ⟨?_, fun _ _ => rfl, fun e => nomatch e⟩
    show assocGet? r.tours v = some newTour
    rw [htours]
    exact get_set_self _ _ _

/-- **C13 (`fit_reassign`)**: with a real provider `p ≠ r` and a real receiver — counted over activities,
    the provider loses exactly the moved nodes, the receiver gains exactly them and loses none of its
    own; both stay valid tours; a provider left without activities disappears -/
theorem C13_fit_effect {nw : Network} (hn : NetHyp nw) {s s' : Schedule} {p r : Veh} {a b : Nat}
    (hi : ListInv s) (hd : DummyInv s) (ho : ToursOK nw s.tours) (hdo : DummiesOK nw s.dummyTours)
    (hne : p ≠ r) (hp : s.isVehicle p = true) (hr : s.isVehicle r = true)
    (h : fitReassign nw s p r a b = .ok s') :
    ∃ pt rt newProv newRecv moved,
      assocGet? s.tours p = some pt ∧ assocGet? s.tours r = some rt ∧
      assocGet? s'.tours r = some newRecv ∧ assocGet? s'.tours p = newProv ∧
      (∀ n, shrunkOcc nw newProv n + occ nw moved n = occ nw pt.nodes n) ∧
      (∀ n, occ nw newRecv.nodes n = occ nw rt.nodes n + occ nw moved n) ∧
      TourOK nw newRecv ∧ (∀ t, newProv = some t → TourOK nw t) ∧
      (newProv = none → assocGet? s'.vehicles p = none) := by
  have hpd := vehicle_not_dummy hi hd hp
  have hrd := vehicle_not_dummy hi hd hr
  obtain ⟨x, rfl⟩ := fitReassign_ok h
  obtain ⟨f1, f2, f3, f4, _, _⟩ := fit_loop_facts hn hi hd ho hdo x.prov_eq x.recv_eq x.path_eq x.loop_eq
  obtain ⟨hp1, hp2⟩ := updateTours_prov x.update_eq hne hpd hp
  refine ⟨x.pt, x.rt, x.newProv, x.newRecv, x.moved, tourOf_not_dummy x.prov_eq hpd, tourOf_not_dummy x.recv_eq hrd,
    updateTours_recv x.update_eq hrd, hp1, f1 hpd, fun n => ?_, f4 hr, f3 hpd, hp2⟩
  have := f2 hr n
  simp only [occ_nil, Nat.add_zero] at this
  exact this

end RSSched.C13E
