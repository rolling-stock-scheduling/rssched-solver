/-
Props/C09: cached aggregates equal recomputation.

Proved here:
* a freshly computed tour (`Tour::new_computing`, the base of every history) is exact;
* the delta algebra every incremental update relies on: for node sums and adjacent-pair sums the
  update `total − segment(old) + segment(new)` equals recomputation of the spliced list, in the
  truncated unsigned arithmetic of the code (no underflow because the subtrahend is a sub-sum);
* `Distance` arithmetic: `Infinity` absorbs, so the delta update is not exact when the cached value
  is `Infinity` (finding F8); the repaired functions recompute in that case.
`C09_tour_statement` (every Tour operation of the model preserves `tourCachesExactB`) is proved as
`C09_tour` in Props/C09Insert, for networks whose node durations are finite and whose depot nodes
carry no distance (`DurFinite`, `DepotDistZero`; the driver checks both on every network).
-/
import RSSched.Lemmas.Splice
import RSSched.Spec.Tour
namespace RSSched.C09
open Tour Spec

theorem C09_computing_exact (nw : Network) (nodes : List Nat) (d : Bool) :
    tourCachesExactB nw (Tour.computing nw nodes d) = true := by
  simp [tourCachesExactB, tourCacheDiffs, Tour.computing]

/-- the monitor means the declarative statement -/
theorem C09_monitor_sound (nw : Network) (t : Tour) (h : tourCachesExactB nw t = true) :
    t.visitsMaint = nw.visitsMaintOf t.nodes ∧ t.usefulDur = nw.usefulDurOf t.nodes ∧
    t.serviceDist = nw.serviceDistOf t.nodes ∧ t.dhDist = nw.dhDistOf t.nodes ∧
    t.costs = nw.costsOf t.nodes := by
  unfold tourCachesExactB tourCacheDiffs at h
  simp only [Tour.computing, List.isEmpty_iff, List.append_eq_nil_iff, ite_eq_right_iff, List.cons_ne_self,
    imp_false, bne_iff_ne, ne_eq, Decidable.not_not, and_assoc] at h
  exact h

/-- adjacent-pair figures (link costs): delta update = recomputation -/
theorem C09_pair_delta (g : Nat → Nat → Nat) (pre old new suf : List Nat) :
    Splice.pairSum g (pre ++ new ++ suf)
      = Splice.pairSum g (pre ++ old ++ suf) - Splice.segTerm g pre old suf + Splice.segTerm g pre new suf :=
  Splice.delta_exact g pre old new suf

/-- per-node figures (durations, service distance, node costs): delta update = recomputation -/
theorem C09_node_delta (f : Nat → Nat) (pre old new suf : List Nat) :
    Splice.nodeSum f (pre ++ new ++ suf)
      = Splice.nodeSum f (pre ++ old ++ suf) - Splice.nodeSum f old + Splice.nodeSum f new :=
  Splice.nodeSum_delta_exact f pre old new suf

/-- F8: the delta formula keeps `Infinity` although the recomputed value is finite -/
theorem F8_infinity_absorbs (a b : Nat) :
    (do let x ← Dist.sub Dist.inf (Dist.d a); pure (Dist.add x (Dist.d b))) = (.ok Dist.inf : R Dist) := by
  simp [Dist.sub, Dist.add, bind, Except.bind, pure, Except.pure]

/-- on finite distances the delta `(x + a) − a + b = x + b` is exact and never faults -/
theorem C09_dist_delta_finite (x a b : Nat) :
    (do let y ← Dist.sub (Dist.d (x + a)) (Dist.d a); pure (Dist.add y (Dist.d b))) = (.ok (Dist.d (x + b)) : R Dist) := by
  simp [Dist.sub, Dist.add, bind, Except.bind, pure, Except.pure]

/-- C09 (tour half), full strength -/
def C09_tour_statement : Prop :=
  ∀ (nw : Network) (t : Tour), tourValidB nw t = true → tourCachesExactB nw t = true →
    (∀ d t', replaceStartDepot nw t d = .ok t' → tourCachesExactB nw t' = true) ∧
    (∀ d t', replaceEndDepot nw t d = .ok t' → tourCachesExactB nw t' = true) ∧
    (∀ a b t' rm, remove nw t a b = .ok (some t', rm) → tourCachesExactB nw t' = true) ∧
    (∀ p t' rm, insertPath nw true t p = .ok (t', rm) → tourCachesExactB nw t' = true)

end RSSched.C09
