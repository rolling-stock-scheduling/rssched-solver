/-
Props/C12: tour edits follow the insert/remove reference semantics.

Proved here, for every network, node list and interval:
* the two binary searches of `Tour` (repaired, finding F2) return exactly the boundary of the monotone
  predicate they search for and never fault;
* a valid tour (chain of connectable nodes, activities with start ≤ end) has non-decreasing start
  and end times, so the searches' precondition holds for every valid tour;
* the pinned comparisons falsify the reference semantics on a concrete tie;
* `Tour.subPath` returns the reference slice whenever the reference defines one.
`C12_insert_statement` says that `Tour.insertPath` returns, and returns the result of the reference
semantics of Spec/Tour.lean. Props/C12Insert proves the second half; that it returns on every valid
tour and path is not proved. On the real code the monitors `insertSpecB` / `removeRef` /
`subPathRef` are evaluated on the results of every run, beside the model-vs-code diff.
-/
import RSSched.Lemmas.InsertPos
namespace RSSched.C12
open Tour Spec

/-- every node has start ≤ end (activities have positive duration; depot nodes E/E and L/L) -/
def NodesWF (nw : Network) : Prop :=
  ∀ i, ExtTime.le (nw.node i).startT (nw.node i).endT = true

theorem pairs_all_getD {α} (p : α × α → Bool) (d : α) : ∀ (l : List α), (pairs l).all p = true →
    ∀ i, i + 1 < l.length → p (l.getD i d, l.getD (i + 1) d) = true
  | _ :: _ :: _, h, 0, _ => (Bool.and_eq_true_iff.mp h).1
  | _ :: b :: l, h, i + 1, hi => pairs_all_getD p d (b :: l) (Bool.and_eq_true_iff.mp h).2 i (Nat.lt_of_succ_lt_succ hi)

theorem chain_step (nw : Network) (nodes : List Nat) (h : chainB nw nodes = true) (i : Nat)
    (hi : i + 1 < nodes.length) : nw.canReach (nodes.getD i 0) (nodes.getD (i + 1) 0) = true :=
  pairs_all_getD (fun p => nw.canReach p.1 p.2) 0 nodes h i hi

theorem timeChain_of_chainB (nw : Network) (hd : C17.DepotTimes nw) (nodes : List Nat)
    (h : chainB nw nodes = true) : TimeChain nw nodes :=
  fun i hi => C17.reach_end_le_start nw hd _ _ (chain_step nw nodes h i hi)

theorem C12_mono_end (nw : Network) (hd : C17.DepotTimes nw) (hw : NodesWF nw) (nodes : List Nat)
    (hc : chainB nw nodes = true) : MonoEnd nw nodes :=
  monoEnd_of_timeChain nw hw nodes (timeChain_of_chainB nw hd nodes hc)

theorem C12_mono_start (nw : Network) (hd : C17.DepotTimes nw) (hw : NodesWF nw) (nodes : List Nat)
    (hc : chainB nw nodes = true) : MonoStart nw nodes :=
  monoStart_of_timeChain nw hw nodes (timeChain_of_chainB nw hd nodes hc)

theorem C12_search_end (nw : Network) (hd : C17.DepotTimes nw) (hw : NodesWF nw) (nodes : List Nat)
    (hc : chainB nw nodes = true) (hne : 0 < nodes.length) (time : ExtTime) :
    ∃ res, earliestArrivalAfter nw true nodes time 0 nodes.length = .ok res ∧
      (∀ p, res = some p → p < nodes.length ∧
          ExtTime.lt time (nw.node (nodes.getD p 0)).endT = true ∧
          ∀ q, q < p → ExtTime.lt time (nw.node (nodes.getD q 0)).endT = false) ∧
      (res = none → ∀ q, q < nodes.length → ExtTime.lt time (nw.node (nodes.getD q 0)).endT = false) := by
  obtain ⟨res, h1, h2, h3⟩ := earliestArrivalAfter_spec nw nodes time
    (C12_mono_end nw hd hw nodes hc) 0 nodes.length hne (Nat.le_refl _)
  exact ⟨res, h1, fun p hp => ⟨(h2 p hp).2.1, (h2 p hp).2.2.1, fun q hq => (h2 p hp).2.2.2 q (Nat.zero_le _) hq⟩,
    fun hn q hq => h3 hn q (Nat.zero_le _) hq⟩

theorem C12_search_start (nw : Network) (hd : C17.DepotTimes nw) (hw : NodesWF nw) (nodes : List Nat)
    (hc : chainB nw nodes = true) (hne : 0 < nodes.length) (time : ExtTime) :
    ∃ res, latestDepartureBefore nw true nodes time 0 nodes.length = .ok res ∧
      (∀ p, res = some p → p < nodes.length ∧
          ExtTime.lt (nw.node (nodes.getD p 0)).startT time = true ∧
          ∀ q, p < q → q < nodes.length → ExtTime.lt (nw.node (nodes.getD q 0)).startT time = false) ∧
      (res = none → ∀ q, q < nodes.length → ExtTime.lt (nw.node (nodes.getD q 0)).startT time = false) := by
  obtain ⟨res, h1, h2, h3⟩ := latestDepartureBefore_spec nw nodes time
    (C12_mono_start nw hd hw nodes hc) 0 nodes.length hne (Nat.le_refl _)
  exact ⟨res, h1, fun p hp => ⟨(h2 p hp).2.1, (h2 p hp).2.2.1, (h2 p hp).2.2.2⟩,
    fun hn q hq => h3 hn q (Nat.zero_le _) hq⟩

/-- nothing the search skips could have been kept -/
theorem C12_late_cannot_reach (nw : Network) (hd : C17.DepotTimes nw) (a x : Nat)
    (h : ExtTime.lt (nw.node x).startT (nw.node a).endT = true) : nw.canReach a x = false :=
  late_cannot_reach nw hd a x h

theorem hasNonDepot_eq (nw : Network) (l : List Nat) :
    hasNonDepot nw l = !l.all (fun n => (nw.node n).isDepot) := (List.not_all_eq_any_not ..).symm

/-- `Path::new_trusted` -/
theorem pathTrusted_eq (nw : Network) (l : List Nat) :
    pathTrusted nw l = if hasNonDepot nw l then some l else none := by
  rw [pathTrusted, hasNonDepot_eq]
  cases l.all (fun n => (nw.node n).isDepot) <;> rfl

/-- valid real or dummy tour in the sense of C10 -/
def TourValid (nw : Network) (t : Tour) : Prop := tourValidB nw t = true

def PathValid (nw : Network) (p : List Nat) : Prop :=
  chainB nw p = true ∧ hasNonDepot nw p = true

/-- C12 (insert), full strength: on every valid tour and path the model of `Tour::insert_path`
    returns the reference result and the reference dropped nodes -/
def C12_insert_statement : Prop :=
  ∀ (nw : Network) (t : Tour) (p : List Nat), C17.DepotTimes nw → NodesWF nw →
    TourValid nw t → PathValid nw p → tourCachesExactB nw t = true →
    ∃ t' rm, insertPath nw true t p = .ok (t', rm) ∧
      insertSpecB nw t.isDummy t.nodes p t'.nodes rm = true

/-- **C12 (sub-path)**: extracting an existing segment always succeeds with exactly the slice, for
    every node list (real or dummy tour, connectable neighbours or not) -/
theorem C12_subpath (nw : Network) (t : Tour) (a b : Nat) (sl : List Nat)
    (h : subPathRef nw t.nodes a b = some sl) : subPath nw t a b = .ok sl := by
  unfold subPathRef posOf at h
  unfold subPath positionOf
  cases hs : t.nodes.findIdx? (· == a) with
  | none => simp [hs] at h
  | some s =>
    cases he : t.nodes.findIdx? (· == b) with
    | none => simp [hs, he] at h
    | some e =>
      simp only [hs, he] at h
      have hlt : e < t.nodes.length := by
        have := List.findIdx?_eq_some_iff_findIdx_eq.mp he
        omega
      split at h
      · rename_i hse
        split at h
        · rename_i hnd
          cases h
          have hsl : (decide (s ≤ e + 1) && decide (e + 1 ≤ t.nodes.length)) = true := by
            simp; omega
          simp only [pure, Except.pure, bind, Except.bind, Nat.not_lt.mpr hse, ↓reduceIte, slice, hsl,
            pathTrusted_eq, hnd]
        · cases h
      · cases h

/-- the pinned `sub_path` rejects an existing segment of a dummy tour whose neighbours are not
    directly connectable (finding F13); the statement for the pinned code is therefore false -/
def C12_subpath_pinned_statement : Prop :=
  ∀ (nw : Network) (t : Tour) (a b : Nat) (sl : List Nat),
    subPathRef nw t.nodes a b = some sl → subPathPinned nw true t a b = .ok sl

/-- tour `s – a(10:00–10:30) – c(11:00–11:30) – e`, path `b(10:30–11:00)`, same station, zero
    shunting -/
def tieTourNet : Network :=
  { nodes := #[
      { kind := .startDepot, idx := 0, startT := .earliest, endT := .earliest, startLoc := .station 0, endLoc := .station 0 },
      { kind := .endDepot, idx := 1, startT := .latest, endT := .latest, startLoc := .station 0, endLoc := .station 0 },
      { kind := .service, idx := 2, startT := .point 36000, endT := .point 37800, startLoc := .station 0, endLoc := .station 0 },
      { kind := .service, idx := 3, startT := .point 37800, endT := .point 39600, startLoc := .station 0, endLoc := .station 0 },
      { kind := .service, idx := 4, startT := .point 39600, endT := .point 41400, startLoc := .station 0, endLoc := .station 0 } ],
    vtypes := #[{ capacity := 10, seats := 10, maxForm := none }],
    depots := #[], nLocs := 1, dhDur := [(0, [(0, 0)])], dhDist := [(0, [(0, 0)])],
    forbidDH := false, shuntMin := 0, shuntDH := 0, maxDist := 0,
    cStaff := 0, cService := 0, cMaint := 0, cDH := 0, cIdle := 0, planning := 86400 }

def tieTour : Tour := Tour.computing tieTourNet [0, 2, 4, 1] false

def resultOf (r : R (Tour × Option (List Nat))) : Option (List Nat × Option (List Nat)) :=
  match r with
  | .ok x => some (x.1.nodes, x.2)
  | .error _ => none

/-- F2: at a tie the pinned searches (`>=` / `<=`) drop the connectable nodes `a` and `c` -/
theorem F2_pinned_drops_back_to_back :
    resultOf (insertPath tieTourNet false tieTour [3]) = some ([0, 3, 1], some [2, 4]) ∧
    resultOf (insertPath tieTourNet true tieTour [3]) = some ([0, 2, 3, 4, 1], none) ∧
    insertRef tieTourNet false [0, 2, 4, 1] [3] = ([0, 2, 3, 4, 1], []) := by
  refine ⟨?_, ?_, ?_⟩ <;> decide +kernel

end RSSched.C12
