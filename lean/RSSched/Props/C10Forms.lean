/-
Props/C10Forms: the formation-membership clause of C10 (and the view agreement of C03), modification
by modification. `FormCount` says that for every node `n` and every vehicle `v`

    #occurrences of v in formation(n)  =  #occurrences of n among the activities of v's tour

(0 when `v` has no tour). With duplicate-free tours this is "v is listed in the formation of n exactly
once iff n is on v's itinerary". The counting form makes the transient states inside one modification
unproblematic (a receiver that already serves a moved node is listed twice until its displaced nodes
are taken out again). `fit_reassign`, the step and the every-history theorem are in Props/C10Fit.

Each `_forms` lemma adds up equations "new = old ± [w = v] * occurrences" of three kinds:
`C13.updateTrainFormation_count` for the formations, `tourOcc_set_real` / `tourOcc_erase_real` for the
tour map, and the node-list fact of the tour modification (`insert_occ`, `remove_some_occ`,
`remove_none_occ`).
-/
import RSSched.Props.C05Reassign
import RSSched.Props.C13Formation
import RSSched.Props.C10Tours
namespace RSSched.C10F
open Schedule Network Tour Spec C13 C10T C10L C09C C10S

def tourOcc (nw : Network) (T : Tours) (v : Veh) (n : Nat) : Nat :=
  match assocGet? T v with
  | some t => occ nw t.nodes n
  | none => 0

/-- **formation membership, counting form** -/
def FormCount (nw : Network) (T : Tours) (forms : List (Nat × List Veh)) : Prop :=
  ∀ n v, (formOf forms n).count v = tourOcc nw T v n

theorem occ_append (nw : Network) (a b : List Nat) (n : Nat) : occ nw (a ++ b) n = occ nw a n + occ nw b n := by
  unfold occ; rw [List.filter_append, List.count_append]

theorem occ_nil (nw : Network) (n : Nat) : occ nw [] n = 0 := rfl

theorem occ_zero_of_depots (nw : Network) (l : List Nat) (n : Nat) (h : ∀ x ∈ l, (nw.node x).isDepot = true) :
    occ nw l n = 0 := by
  unfold occ
  have : l.filter (fun x => !(nw.node x).isDepot) = [] := by
    rw [List.filter_eq_nil_iff]; intro x hx; simp [h x hx]
  rw [this]; rfl

theorem occ_of_no_nonDepot (nw : Network) (l : List Nat) (n : Nat) (h : hasNonDepot nw l = false) :
    occ nw l n = 0 := by
  apply occ_zero_of_depots
  intro x hx
  unfold hasNonDepot at h
  rw [List.any_eq_false] at h
  have := h x hx
  simpa using this

theorem occ_set_depot (nw : Network) (l : List Nat) (i d n : Nat) (hd : (nw.node d).isDepot = true)
    (hold : ∀ x, l[i]? = some x → (nw.node x).isDepot = true) : occ nw (l.set i d) n = occ nw l n := by
  induction l generalizing i with
  | nil => simp
  | cons a as ih =>
    cases i with
    | zero =>
      have ha := hold a (by simp)
      simp only [List.set_cons_zero]
      rw [occ_cons_depot nw d as n hd, occ_cons_depot nw a as n ha]
    | succ j =>
      simp only [List.set_cons_succ]
      have := ih j (fun x hx => hold x (by simpa using hx))
      by_cases hda : (nw.node a).isDepot = true
      · rw [occ_cons_depot nw a _ n hda, occ_cons_depot nw a _ n hda, this]
      · have hda' : (nw.node a).isDepot = false := by simpa using hda
        rw [occ_cons_act nw a _ n hda', occ_cons_act nw a _ n hda', this]

theorem tourOcc_set (nw : Network) (T : Tours) (v w : Veh) (t : Tour) (n : Nat) :
    tourOcc nw (assocSet T v t) w n = if w = v then occ nw t.nodes n else tourOcc nw T w n := by
  unfold tourOcc; rw [assocGet?_assocSet]
  by_cases e : w = v <;> simp [e]

theorem tourOcc_erase (nw : Network) (T : Tours) (v w : Veh) (n : Nat) :
    tourOcc nw (assocErase T v) w n = if w = v then 0 else tourOcc nw T w n := by
  unfold tourOcc; rw [assocGet?_assocErase]
  by_cases e : w = v <;> simp [e]

theorem tourOcc_of_get {nw : Network} {T : Tours} {v : Veh} {t : Tour} (h : assocGet? T v = some t) (n : Nat) :
    tourOcc nw T v n = occ nw t.nodes n := by unfold tourOcc; rw [h]

theorem tourOcc_of_none {nw : Network} {T : Tours} {v : Veh} (h : assocGet? T v = none) (n : Nat) :
    tourOcc nw T v n = 0 := by unfold tourOcc; rw [h]

theorem ind_mul (p : Prop) [Decidable p] (k : Nat) : ind p * k = if p then k else 0 := by
  unfold ind; split <;> simp

/-- `Tour::remove` on node lists -/
theorem remove_nodes {nw : Network} {t : Tour} {a b : Nat} {ot : Option Tour} {path : List Nat}
    (h : Tour.remove nw t a b = .ok (ot, path)) :
    ∃ s e, t.positionOf a = .ok s ∧ t.positionOf b = .ok e ∧ checkSeqRemovable nw t s e = .ok () ∧
      e + 1 ≤ t.nodes.length ∧ path = (t.nodes.drop s).take (e + 1 - s) ∧
      match ot with
      | some t' => t'.nodes = t.nodes.take s ++ t.nodes.drop (e + 1) ∧ t'.isDummy = t.isDummy ∧ t'.nodes ≠ []
      | none => t.nodes.take s ++ t.nodes.drop (e + 1) = [] ∨
          (t.isDummy = false ∧ (t.nodes.take s ++ t.nodes.drop (e + 1)).length ≤ 2) := by
  obtain ⟨s, e, removed, _, _, _, _, _, rfl, hs, he, hchk, hrem, hp, -, -, -, -, hot⟩ := Tour.remove_ok h
  obtain ⟨-, hlen, rfl⟩ := C09.slice_inv hrem
  cases pathTrusted_some hp
  refine ⟨s, e, hs, he, hchk, hlen, rfl, ?_⟩
  cases ot with
  | none =>
    simp only [Bool.or_eq_true, List.isEmpty_iff, Bool.and_eq_true, Bool.not_eq_true', decide_eq_true_eq] at hot
    exact hot
  | some t' =>
    obtain ⟨hcond, rfl⟩ := hot
    simp only [Bool.or_eq_true, List.isEmpty_iff, not_or] at hcond
    exact ⟨rfl, rfl, hcond.1⟩

theorem remove_split {nw : Network} {t : Tour} {a b : Nat} {ot : Option Tour} {path : List Nat}
    (h : Tour.remove nw t a b = .ok (ot, path)) :
    ∃ s e, checkSeqRemovable nw t s e = .ok () ∧ e + 1 ≤ t.nodes.length ∧
      t.nodes = t.nodes.take s ++ path ++ t.nodes.drop (e + 1) ∧
      (∀ t', ot = some t' → t'.nodes = t.nodes.take s ++ t.nodes.drop (e + 1)) ∧
      (ot = none → (t.nodes.take s ++ t.nodes.drop (e + 1) = [] ∨
         (t.isDummy = false ∧ (t.nodes.take s ++ t.nodes.drop (e + 1)).length ≤ 2))) := by
  obtain ⟨s, e, -, -, hchk, hlen, rfl, hot⟩ := remove_nodes h
  refine ⟨s, e, hchk, hlen, take_drop_split t.nodes s (e + 1) (Nat.le_succ_of_le (C09.checkSeqRemovable_le hchk)),
    ?_, ?_⟩
  · rintro t' rfl
    exact hot.1
  · rintro rfl
    exact hot

/-- a real tour of valid shape from which `remove` leaves no tour has lost all its activities -/
theorem remove_none_occ {nw : Network} {t : Tour} {a b : Nat} {path : List Nat}
    (ht : TourOK nw t) (h : Tour.remove nw t a b = .ok (none, path)) (n : Nat) :
    occ nw t.nodes n = occ nw path n := by
  obtain ⟨s, e, hchk, he, hsp, _, hnone⟩ := remove_split h
  obtain ⟨sd, mid, ed, hl, hsd, hed, hmid, hmidnd⟩ := ht.shape
  obtain ⟨hlen3, hn1, hn2⟩ := C12.checkSeqRemovable_real hchk ht.real
  have hsdD : (nw.node sd).isDepot = true := by simp [Node.isDepot, hsd]
  have hedD : (nw.node ed).isDepot = true := by simp [Node.isDepot, hed]
  have hn : t.nodes.length = mid.length + 2 := by rw [hl]; simp
  have hmidpos : 0 < mid.length := List.length_pos_iff.mpr hmid
  have hdep : ∀ x ∈ t.nodes.take s ++ t.nodes.drop (e + 1), (nw.node x).isDepot = true := by
    rcases hnone rfl with he0 | ⟨_, hlen⟩
    · rw [he0]; intro x hx; cases hx
    · simp only [List.length_append, List.length_take, List.length_drop] at hlen
      have hs1 : s ≤ 1 := Nat.not_lt.mp fun h2s => hn2 ⟨by omega, h2s⟩
      have he1 : mid.length + 1 ≤ e + 1 := Nat.not_lt.mp fun hc => hn1 ⟨by omega, by omega⟩
      intro x hx
      rcases List.mem_append.mp hx with hxp | hxs
      · have := List.take_subset_take_left t.nodes hs1 hxp
        rw [hl] at this
        simp at this
        rw [this]
        exact hsdD
      · have := List.drop_subset_drop_left t.nodes he1 hxs
        rw [hl] at this
        simp at this
        rw [this]
        exact hedD
  rw [hsp, occ_append, occ_append]
  have h1 : occ nw (t.nodes.take s) n = 0 := occ_zero_of_depots nw _ n (fun x hx => hdep x (by simp [hx]))
  have h2 : occ nw (t.nodes.drop (e + 1)) n = 0 := occ_zero_of_depots nw _ n (fun x hx => hdep x (by simp [hx]))
  omega

theorem remove_some_occ {nw : Network} {t t' : Tour} {a b : Nat} {path : List Nat}
    (h : Tour.remove nw t a b = .ok (some t', path)) (n : Nat) :
    occ nw t.nodes n = occ nw t'.nodes n + occ nw path n := by
  obtain ⟨s, e, _, _, hsp, hsome, _⟩ := remove_split h
  rw [hsome t' rfl]
  conv => lhs; rw [hsp]
  rw [occ_append, occ_append, occ_append]; omega

theorem isActivity_of_not_depot {nw : Network} {x : Nat} (h : (nw.node x).isDepot = false) :
    isActivity (nw.node x) = true := by
  unfold isActivity Node.isService Node.isMaint
  unfold Node.isDepot Node.isStartDepot Node.isEndDepot at h
  cases hk : (nw.node x).kind <;> simp [hk] at h ⊢

theorem insertPath_plan {nw : Network} {strict : Bool} {t t' : Tour} {path : List Nat} {rm : Option (List Nat)}
    (h : insertPath nw strict t path = .ok (t', rm)) :
    ∃ pl, insertPlan nw strict t path = .ok pl ∧ t'.nodes = pl.tourNodes ∧ t'.isDummy = t.isDummy ∧
      rm = pathTrusted nw pl.old := by
  obtain ⟨pl, _, hpl, -, rfl, hrm⟩ := Tour.insertPath_ok h
  exact ⟨pl, hpl, rfl, rfl, hrm⟩

theorem insertPlan_ends {nw : Network} {strict : Bool} {t : Tour} {path : List Nat} {pl : InsertPlan}
    (h : insertPlan nw strict t path = .ok pl) :
    ∃ first last, pl.newNodes[0]? = some first ∧ pl.newNodes[pl.newNodes.length - 1]? = some last ∧
      getInsertPositions nw strict t first last = .ok (pl.s, pl.e) ∧ slice t.nodes pl.s pl.e = .ok pl.old ∧
      (t.isDummy = false → pl.newNodes = path) := by
  obtain ⟨p1, first, last, hp1, hp2, hfirst, hlast, hse, hold, -⟩ := Tour.insertPlan_ok h
  refine ⟨first, last, idxAt_inv hfirst, idxAt_inv hlast, hse, hold, fun hr => ?_⟩
  rw [hr] at hp1 hp2
  cases hp1
  cases hp2
  rfl

/-- `Tour::insert_path` on a time-ordered tour agrees with the reference `insertRef` -/
theorem insertPath_ref (nw : Network) (hd : C17.DepotTimes nw) (hw : NodesWF' nw) {t t' : Tour} {path : List Nat}
    {rm : Option (List Nat)} (hc : TimeChain nw t.nodes) (hne : 0 < t.nodes.length)
    (h : insertPath nw true t path = .ok (t', rm)) :
    t'.nodes = (insertRef nw t.isDummy t.nodes path).1 ∧ t'.isDummy = t.isDummy ∧
      rm = pathTrusted nw (insertRef nw t.isDummy t.nodes path).2 ∧ stripForDummy nw t.isDummy path ≠ [] := by
  obtain ⟨pl, hpl, hn, hdm, hrm⟩ := insertPath_plan h
  obtain ⟨h1, h2, h3⟩ := C12.plan_inv nw hd hw t path hc hne pl hpl
  obtain ⟨first, _, hfirst, -⟩ := insertPlan_ends hpl
  refine ⟨hn.trans h2, hdm, by rw [hrm, h3], ?_⟩
  rw [← h1]
  intro e
  rw [e] at hfirst
  cases hfirst

theorem occ_pathTrusted (nw : Network) (l : List Nat) (n : Nat) : occ nw ((pathTrusted nw l).getD []) n = occ nw l n := by
  rw [C12.pathTrusted_eq]
  split
  · rfl
  · rename_i hnd
    exact (occ_of_no_nonDepot nw l n (by simpa using hnd)).symm

theorem chain_ends_le (nw : Network) (hw : NodesWF' nw) (p : List Nat) (hc : TimeChain nw p) (hne : p ≠ []) :
    ExtTime.le (nw.node (p.headD 0)).endT (nw.node (p.getLastD 0)).endT = true := by
  have hlen : 0 < p.length := List.length_pos_iff.mpr hne
  have hfl := monoEnd_of_timeChain nw hw p hc 0 (p.length - 1) (by omega) (by omega)
  have e1 : p.headD 0 = p.getD 0 0 := by cases p <;> rfl
  have e2 : p.getLastD 0 = p.getD (p.length - 1) 0 := by
    rw [List.getLastD_eq_getLast?, List.getLast?_eq_getElem?, List.getD_eq_getElem?_getD]
  rw [e1, e2]
  exact hfl

/-- the prefix `insertRef` keeps ends before the suffix it keeps starts -/
theorem insertRef_range_le (nw : Network) (hd : C17.DepotTimes nw) (hw : NodesWF' nw) (hap : C12.ActPos nw)
    (nodes p : List Nat) (hc : TimeChain nw nodes) (hp : TimeChain nw p) (hne : p ≠ []) :
    (if (nw.node (p.headD 0)).isDepot then 0 else keepPrefixLen nw nodes (p.headD 0)) ≤
      (if (nw.node (p.getLastD 0)).isDepot then nodes.length else keepSuffixStart nw nodes (p.getLastD 0)) := by
  split
  · exact Nat.zero_le _
  · split
    · exact lastTrueLen_le _ _
    · rename_i hld
      exact C12.C12_positions_ordered nw hd hw hap nodes hc _ _ (chain_ends_le nw hw p hp hne)
        (isActivity_of_not_depot (by simpa using hld))

/-- `Tour::insert_path` into a valid real tour: counted over activities, the new tour plus the reported
    dropped nodes is the old tour plus the path -/
theorem insert_occ (nw : Network) (hd : C17.DepotTimes nw) (hw : NodesWF' nw) (hap : C12.ActPos nw)
    (t t' : Tour) (path : List Nat) (rm : Option (List Nat)) (ht : TourOK nw t) (hp : PathOK nw path)
    (h : insertPath nw true t path = .ok (t', rm)) (n : Nat) :
    occ nw t'.nodes n + occ nw (rm.getD []) n = occ nw t.nodes n + occ nw path n := by
  have hc := C12.timeChain_of_chainB nw hd t.nodes ht.chain
  obtain ⟨hnodes, -, rfl, hpne⟩ := insertPath_ref nw hd hw hc (by have := shape_len ht.shape; omega) h
  rw [hnodes, occ_pathTrusted, ht.real]
  rw [ht.real] at hpne
  have hkm := insertRef_range_le nw hd hw hap t.nodes path hc (C12.timeChain_of_chainB nw hd path hp.chain) hpne
  unfold insertRef
  simp only [stripForDummy, Bool.not_false, ↓reduceIte]
  conv => rhs; rw [take_drop_split t.nodes _ _ hkm]
  simp only [occ_append]
  omega

theorem real_not_dummy {s : Schedule} (hd : DummyInv s) (c : Nat) : s.isDummy (Veh.real c) = false := by
  cases hdm : s.isDummy (Veh.real c) with
  | false => rfl
  | true => have := hd _ hdm; cases this

theorem indO_realOf_of_not_dummy {s : Schedule} {v : Veh} (h : s.isDummy v = false) (w : Veh) :
    indO (realOf s (some v)) w = if v = w then 1 else 0 := by
  simp [realOf, h, indO, ind]

theorem indO_realOf_none (s : Schedule) (w : Veh) : indO (realOf s none) w = 0 := rfl

theorem indO_realOf_dummy {s : Schedule} {v : Veh} (h : s.isDummy v = true) (w : Veh) :
    indO (realOf s (some v)) w = 0 := by simp [realOf, h, indO]

theorem tourOcc_set_real {nw : Network} {s : Schedule} {T : Tours} {v : Veh} {t : Tour} (hnd : s.isDummy v = false)
    (w : Veh) (n : Nat) :
    tourOcc nw (assocSet T v t) w n + indO (realOf s (some v)) w * tourOcc nw T v n
      = tourOcc nw T w n + indO (realOf s (some v)) w * occ nw t.nodes n := by
  rw [tourOcc_set, indO_realOf_of_not_dummy hnd]
  by_cases e : v = w
  · subst e
    simp only [↓reduceIte, Nat.one_mul]
    exact Nat.add_comm _ _
  · have e' : ¬ w = v := fun h => e h.symm
    simp only [e, e', ↓reduceIte, Nat.zero_mul]

theorem tourOcc_erase_real {nw : Network} {s : Schedule} {T : Tours} {v : Veh} (hnd : s.isDummy v = false)
    (w : Veh) (n : Nat) :
    tourOcc nw (assocErase T v) w n + indO (realOf s (some v)) w * tourOcc nw T v n = tourOcc nw T w n := by
  rw [tourOcc_erase, indO_realOf_of_not_dummy hnd]
  by_cases e : v = w
  · subst e
    simp only [↓reduceIte, Nat.one_mul, Nat.zero_add]
  · have e' : ¬ w = v := fun h => e h.symm
    simp only [e, e', ↓reduceIte, Nat.zero_mul, Nat.add_zero]

theorem spawn_forms {nw : Network} {s s' : Schedule} {vt : Nat} {path : List Nat} {v : Veh}
    (hi : ListInv s) (hd : DummyInv s) (hf : FormCount nw s.tours s.formations)
    (h : spawnVehicleForPath nw s vt path = .ok (s', v)) : FormCount nw s'.tours s'.formations := by
  obtain ⟨r, rfl⟩ := spawnVehicleForPath_ok h
  obtain rfl := r.veh_eq
  intro n w
  have hc := updateTrainFormation_count nw s _ none (some (Veh.real s.counter)) _ _ _ _ _ r.forms_eq n w
  have ht := tourOcc_set_real (nw := nw) (T := s.tours) (t := r.tour) (real_not_dummy hd s.counter) w n
  rw [tourOcc_of_none (counter_no_tour hi)] at ht
  rw [indO_realOf_none] at hc
  have h0 := hf n w
  show (formOf r.forms n).count w = tourOcc nw (assocSet s.tours (Veh.real s.counter) r.tour) w n
  -- count and occurrences were equal (h0); both gain `occ nw r.tour.nodes n` if `w` is the new vehicle (hc, ht)
  omega

theorem delete_forms {nw : Network} {s s' : Schedule} {v : Veh}
    (hi : ListInv s) (hd : DummyInv s) (hf : FormCount nw s.tours s.formations)
    (h : replaceVehicleByDummy nw s v = .ok s') : FormCount nw s'.tours s'.formations := by
  obtain ⟨r, rfl⟩ := replaceVehicleByDummy_ok h
  have hnd := vehicle_not_dummy hi hd (isVehicle_of_tour hi r.tour_eq)
  intro n w
  have hc := updateTrainFormation_count nw s _ (some v) none _ _ _ _ _ r.forms_eq n w
  have ht := tourOcc_erase_real (nw := nw) (T := s.tours) hnd w n
  rw [tourOcc_of_get r.tour_eq] at ht
  rw [indO_realOf_none] at hc
  have h0 := hf n w
  show (formOf r.forms n).count w = tourOcc nw (assocErase s.tours v) w n
  -- count and occurrences were equal (h0) and both lose `[w = v] * occ nw r.tour.nodes n` (hc, ht)
  omega

/-- the three network-level hypotheses (decidable on a loaded network, `formHypsB`) -/
structure NetHyp (nw : Network) : Prop where
  dt : C17.DepotTimes nw
  wf : NodesWF' nw
  ap : C12.ActPos nw

theorem addPath_forms {nw : Network} (hn : NetHyp nw) {s s' : Schedule} {v : Veh} {path : List Nat}
    {rm : Option (List Nat)} (hi : ListInv s) (hd : DummyInv s) (ho : ToursOK nw s.tours) (hp : PathOK nw path)
    (hf : FormCount nw s.tours s.formations)
    (h : addPathToVehicleTour nw s v path = .ok (s', rm)) : FormCount nw s'.tours s'.formations := by
  obtain ⟨r, rfl⟩ := addPathToVehicleTour_ok h
  have hf2 := r.forms_eq
  have hnd := vehicle_not_dummy hi hd (isVehicle_of_tour hi r.old_eq)
  intro n w
  have c1 := updateTrainFormation_count nw s _ none (some v) path _ _ _ _ r.forms1_eq n w
  have ht := tourOcc_set_real (nw := nw) (T := s.tours) (t := r.newTour) hnd w n
  -- only the counts of `v` change: `insert_occ`, taken times the indicator of `w = v`
  have hio := congrArg (indO (realOf s (some v)) w * ·)
    (insert_occ nw hn.dt hn.wf hn.ap r.old r.newTour path rm (ho v r.old r.old_eq) hp r.insert_eq n)
  simp only [Nat.mul_add] at hio
  rw [tourOcc_of_get r.old_eq] at ht
  rw [indO_realOf_none] at c1
  have h0 := hf n w
  show (formOf r.forms n).count w = tourOcc nw (assocSet s.tours v r.newTour) w n
  -- `[w = v]` times: count + path (c1) − rm (c2), occurrences old → newTour (ht), newTour + rm = old + path (hio)
  cases rm with
  | none =>
    simp only [Except.ok.injEq, Prod.mk.injEq] at hf2
    rw [← hf2.1]
    rw [Option.getD_none, occ_nil] at hio
    omega
  | some rp =>
    have c2 := updateTrainFormation_count nw s _ (some v) none rp _ _ _ _ hf2 n w
    rw [indO_realOf_none] at c2
    rw [Option.getD_some] at hio
    omega

theorem rmSeg_forms {nw : Network} {s s' : Schedule} {v : Veh} {a b : Nat}
    (hi : ListInv s) (hd : DummyInv s) (hf : FormCount nw s.tours s.formations)
    (h : removeSegment nw s v a b = .ok s') : FormCount nw s'.tours s'.formations := by
  obtain ⟨tour, shrunk, removed, hv, htour, hrem, h⟩ := removeSegment_ok h
  cases shrunk with
  | none => exact delete_forms hi hd hf h
  | some newTour =>
    obtain ⟨r, rfl⟩ := h
    have hnd := vehicle_not_dummy hi hd hv
    rw [(tourOf_vehicle hi hv).1] at htour
    have htours : r.tours = assocSet s.tours v newTour := by
      have := utc_tours r.tours_eq
      rwa [hnd] at this
    intro n w
    have c1 := updateTrainFormation_count nw s _ (some v) none removed _ _ _ _ r.forms_eq n w
    have ht := tourOcc_set_real (nw := nw) (T := s.tours) (t := newTour) hnd w n
    have hro := congrArg (indO (realOf s (some v)) w * ·) (remove_some_occ hrem n)
    simp only [Nat.mul_add] at hro
    rw [tourOcc_of_get htour] at ht
    rw [indO_realOf_none] at c1
    have h0 := hf n w
    show (formOf r.forms n).count w = tourOcc nw r.tours w n
    rw [htours]
    -- `[w = v]` times: count − removed (c1), occurrences tour → newTour (ht), tour = newTour + removed (hro)
    omega

theorem replaceStartDepot_nodes {nw : Network} {t t' : Tour} {d : Nat} (h : t.replaceStartDepot nw d = .ok t') :
    t'.nodes = t.nodes.set 0 d ∧ (nw.node d).isStartDepot = true ∧ 0 < t.nodes.length := by
  obtain ⟨-, hd, old, _, _, _, hold, -, -, -, rfl⟩ := Tour.replaceStartDepot_ok h
  exact ⟨rfl, hd, (List.getElem?_eq_some_iff.mp (idxAt_inv hold)).1⟩

theorem replaceStartDepot_occ {nw : Network} {t t' : Tour} {d : Nat} (ht : TourOK nw t)
    (h : t.replaceStartDepot nw d = .ok t') (n : Nat) : occ nw t'.nodes n = occ nw t.nodes n := by
  obtain ⟨hnodes, hd, -⟩ := replaceStartDepot_nodes h
  obtain ⟨sd, mid, ed, hl, hsd, -, -, -⟩ := ht.shape
  rw [hnodes]
  apply occ_set_depot nw t.nodes 0 d n (by simp [Node.isDepot, hd])
  intro x hx
  rw [hl] at hx
  cases hx
  simp [Node.isDepot, hsd]

theorem replaceEndDepot_occ {nw : Network} {t t' : Tour} {d : Nat} (ht : TourOK nw t)
    (h : t.replaceEndDepot nw d = .ok t') (n : Nat) : occ nw t'.nodes n = occ nw t.nodes n := by
  obtain ⟨hnodes, -, hd⟩ := C05.replaceEndDepot_nodes h
  obtain ⟨sd, mid, ed, hl, -, hed, -, -⟩ := ht.shape
  rw [hnodes]
  apply occ_set_depot nw t.nodes (t.nodes.length - 1) d n (by simp [Node.isDepot, hd])
  intro x hx
  have : (sd :: (mid ++ [ed]))[(sd :: (mid ++ [ed])).length - 1]? = some ed := by
    simp
  rw [hl, this] at hx
  cases hx
  simp [Node.isDepot, hed]

theorem improveDepotsOfTour_occ {nw : Network} {t nt : Tour} {vt : Nat} {u : DepotUsage} (ht : TourOK nw t)
    (h : improveDepotsOfTour nw t vt u = .ok nt) (n : Nat) : occ nw nt.nodes n = occ nw t.nodes n :=
  (improveDepotsOfTour_keeps (P := fun t' => TourOK nw t' ∧ occ nw t'.nodes n = occ nw t.nodes n) h ⟨ht, rfl⟩
    (fun _ _ _ h0 h1 => ⟨replaceStartDepot_tourOK nw _ _ _ h0.1 h1, (replaceStartDepot_occ h0.1 h1 n).trans h0.2⟩)
    (fun _ _ _ h0 h1 => ⟨replaceEndDepot_tourOK nw _ _ _ h0.1 h1, (replaceEndDepot_occ h0.1 h1 n).trans h0.2⟩)).2

def SameOcc (nw : Network) (T0 T : Tours) : Prop := ∀ w n, tourOcc nw T w n = tourOcc nw T0 w n

theorem formCount_of_sameOcc {nw : Network} {T0 T : Tours} {forms : List (Nat × List Veh)}
    (hf : FormCount nw T0 forms) (h : SameOcc nw T0 T) : FormCount nw T forms := by
  intro n w; rw [hf n w, h w n]

theorem fold_sameOcc (nw : Network) (T0 : Tours) (F : Acc → Veh → R Acc) {L : List Veh} {acc acc' : Acc}
    (hF : ∀ c v c', v ∈ L → F c v = .ok c' →
      ∃ nt, c'.1 = assocSet c.1 v nt ∧ ∀ n, occ nw nt.nodes n = tourOcc nw T0 v n)
    (ho : SameOcc nw T0 acc.1) (h : L.foldlM F acc = .ok acc') : SameOcc nw T0 acc'.1 := by
  refine foldlM_induct F (fun c => SameOcc nw T0 c.1) L acc acc' (fun v hv c c' hc hstep => ?_) ho h
  obtain ⟨nt, hset, hnt⟩ := hF c v c' hv hstep
  intro w n
  rw [hset, tourOcc_set]
  by_cases e : w = v
  · rw [if_pos e, e]
    exact hnt n
  · rw [if_neg e]
    exact hc w n

theorem vehTour_occ {nw : Network} {s : Schedule} {v : Veh} {t : Tour} (hi : ListInv s)
    (hv : s.isVehicle v = true) (h : s.tourOf? v = some t) (n : Nat) : tourOcc nw s.tours v n = occ nw t.nodes n := by
  rw [(tourOf_vehicle hi hv).1] at h
  exact tourOcc_of_get h n

theorem sameOcc_refl (nw : Network) (T : Tours) : SameOcc nw T T := fun _ _ => rfl

theorem improveStep_occ {nw : Network} {s : Schedule} {acc acc' : Acc} {v : Veh} (hi : ListInv s)
    (ho : ToursOK nw s.tours) (h : improveStep nw s acc v = .ok acc') :
    ∃ nt, acc'.1 = assocSet acc.1 v nt ∧ ∀ n, occ nw nt.nodes n = tourOcc nw s.tours v n := by
  obtain ⟨r, rfl⟩ := improveStep_ok h
  have hv := typed_isVehicle r.type_eq
  refine ⟨r.nt, rfl, fun n => ?_⟩
  rw [vehTour_occ hi hv r.tour_eq n]
  exact improveDepotsOfTour_occ (vehTour_P hi ho hv r.tour_eq) r.improve_eq n

theorem greedyStep_occ {nw : Network} {s : Schedule} {acc acc' : Acc} {v : Veh} (hi : ListInv s)
    (ho : ToursOK nw s.tours) (hv : s.isVehicle v = true) (h : greedyStep nw s acc v = .ok acc') :
    ∃ nt, acc'.1 = assocSet acc.1 v nt ∧ ∀ n, occ nw nt.nodes n = tourOcc nw s.tours v n := by
  obtain ⟨r, rfl⟩ := greedyStep_ok h
  refine ⟨r.nt, rfl, fun n => ?_⟩
  rw [vehTour_occ hi hv r.tour_eq n]
  exact replaceEndDepot_occ (vehTour_P hi ho hv r.tour_eq) r.replace_eq n

theorem endStep_occ {nw : Network} {s : Schedule} {acc acc' : Acc} {v : Veh} (hi : ListInv s)
    (ho : ToursOK nw s.tours) (h : C05.endStep nw s acc v = .ok acc') :
    ∃ nt, acc'.1 = assocSet acc.1 v nt ∧ ∀ n, occ nw nt.nodes n = tourOcc nw s.tours v n := by
  obtain ⟨r, rfl⟩ := C05.endStep_ok h
  have hv := typed_isVehicle r.type_eq
  refine ⟨r.nt, rfl, fun n => ?_⟩
  rw [vehTour_occ hi hv r.tour_eq n]
  exact replaceEndDepot_occ (vehTour_P hi ho hv r.tour_eq) r.replace_eq n

theorem endConsistent_sameOcc {nw : Network} {s s' : Schedule} (hi : ListInv s) (ho : ToursOK nw s.tours)
    (h : reassignEndDepotsConsistent nw s = .ok s') : SameOcc nw s.tours s'.tours := by
  obtain ⟨_, _, _, _, _, hfold, -, rfl⟩ := reassignEndDepotsConsistent_ok h
  exact fold_sameOcc nw s.tours (C05.endStep nw s) (fun _ _ _ _ hstep => endStep_occ hi ho hstep)
    (sameOcc_refl nw _) hfold

theorem endGreedy_sameOcc {nw : Network} {s s' : Schedule} (hi : ListInv s) (ho : ToursOK nw s.tours)
    (h : reassignEndDepotsGreedily nw s = .ok s') : SameOcc nw s.tours s'.tours := by
  obtain ⟨_, _, _, _, _, hfold, -, rfl⟩ := reassignEndDepotsGreedily_ok h
  exact fold_sameOcc nw s.tours (greedyStep nw s)
    (fun _ _ _ hv hstep => greedyStep_occ hi ho (listed_isVehicle hi hv) hstep) (sameOcc_refl nw _) hfold

theorem improve_sameOcc {nw : Network} {s s' : Schedule} {vs : Option (List Veh)} (hi : ListInv s)
    (ho : ToursOK nw s.tours) (h : improveDepots nw s vs = .ok s') : SameOcc nw s.tours s'.tours := by
  obtain ⟨_, _, _, _, _, _, -, hfold, -, rfl⟩ := improveDepots_ok h
  exact fold_sameOcc nw s.tours (improveStep nw s) (fun _ _ _ _ hstep => improveStep_occ hi ho hstep)
    (sameOcc_refl nw _) hfold

/-- the tour map after the provider's part of `update_tours` -/
def provTours (s : Schedule) (p : Veh) (newProv : Option Tour) : Tours :=
  if s.isDummy p then s.tours else
  match newProv with
  | some t => assocSet s.tours p t
  | none => if s.isVehicle p then assocErase s.tours p else s.tours

def shrunkOcc (nw : Network) (shrunk : Option Tour) (n : Nat) : Nat :=
  match shrunk with
  | some t => occ nw t.nodes n
  | none => 0

theorem remove_occ {nw : Network} {t : Tour} {a b : Nat} {shrunk : Option Tour} {path : List Nat}
    (ht : TourOK nw t) (h : Tour.remove nw t a b = .ok (shrunk, path)) (n : Nat) :
    shrunkOcc nw shrunk n + occ nw path n = occ nw t.nodes n := by
  cases shrunk with
  | some t' => exact (remove_some_occ h n).symm
  | none =>
    rw [shrunkOcc, Nat.zero_add]
    exact (remove_none_occ ht h n).symm

theorem updateTours_spec {nw : Network} {s : Schedule} {w' : Work} {p r : Veh} {newProv : Option Tour}
    {newRecv : Tour} {moved : List Nat}
    (h : updateTours nw s (Work.ofSchedule s) (some p) newProv r newRecv moved = .ok w') :
    w'.tours = (if s.isDummy r then provTours s p newProv else assocSet (provTours s p newProv) r newRecv) ∧
    ∀ n x, (formOf w'.forms n).count x + indO (realOf s (some p)) x * occ nw moved n
      = (formOf s.formations n).count x + indO (realOf s (if s.isVehicle r then some r else none)) x * occ nw moved n := by
  obtain ⟨w0, _, tours, _, _, _, forms, _, hprov, -, hutc, -, hf, rfl⟩ := updateTours_ok h
  have h0 : w0.tours = provTours s p newProv ∧ w0.forms = s.formations := by
    cases hprov with
    | shrunk hu => exact ⟨utc_tours hu, rfl⟩
    | dummyGone _ hdm _ =>
      refine ⟨?_, rfl⟩
      rw [provTours, if_pos hdm]
      rfl
    | vehicleGone _ hdm hv _ _ =>
      refine ⟨?_, rfl⟩
      rw [provTours, hdm, if_pos hv]
      rfl
    | absent hdm hv =>
      refine ⟨?_, rfl⟩
      rw [provTours, hdm, hv]
      rfl
  refine ⟨?_, fun n x => ?_⟩
  · rw [← h0.1]
    exact utc_tours hutc
  · rw [← h0.2]
    exact updateTrainFormation_count nw s _ (some p) _ moved _ _ _ _ hf n x

theorem tourOf_not_dummy {s : Schedule} {v : Veh} {t : Tour} (h : s.tourOf? v = some t) (hnd : s.isDummy v = false) :
    assocGet? s.tours v = some t := by
  unfold Schedule.tourOf? at h
  split at h
  · rename_i t' ht'; rw [ht']; exact h
  · unfold Schedule.isDummy at hnd; rw [h] at hnd; cases hnd

theorem dummy_not_vehicle {s : Schedule} (hi : ListInv s) (hd : DummyInv s) {v : Veh} (h : s.isDummy v = true) :
    s.isVehicle v = false := by
  cases hv : s.isVehicle v with
  | false => rfl
  | true => have := vehicle_not_dummy hi hd hv; rw [h] at this; cases this

/-- provider side of a reassignment: its entry in the tour map has lost what left its tour -/
theorem provTours_occ {nw : Network} {s : Schedule} {p : Veh} {pt : Tour} {shrunk : Option Tour} {moved : List Nat}
    (hi : ListInv s) (hpt : s.tourOf? p = some pt)
    (hocc : s.isDummy p = false → ∀ n, shrunkOcc nw shrunk n + occ nw moved n = occ nw pt.nodes n)
    (x : Veh) (n : Nat) :
    tourOcc nw (provTours s p shrunk) x n + indO (realOf s (some p)) x * occ nw moved n = tourOcc nw s.tours x n := by
  unfold provTours
  by_cases hdm : s.isDummy p = true
  · simp only [hdm, ↓reduceIte, indO_realOf_dummy hdm, Nat.zero_mul, Nat.add_zero]
  · have hdm' : s.isDummy p = false := by simpa using hdm
    have hget := tourOf_not_dummy hpt hdm'
    have ho := hocc hdm' n
    simp only [hdm', Bool.false_eq_true, ↓reduceIte]
    cases shrunk with
    | some t =>
      have := tourOcc_set_real (nw := nw) (T := s.tours) (t := t) hdm' x n
      rw [tourOcc_of_get hget, ← ho, shrunkOcc, Nat.mul_add] at this
      show tourOcc nw (assocSet s.tours p t) x n + _ = _
      omega
    | none =>
      have := tourOcc_erase_real (nw := nw) (T := s.tours) hdm' x n
      rw [tourOcc_of_get hget, ← ho, shrunkOcc, Nat.zero_add] at this
      simp only [isVehicle_of_tour hi hget, ↓reduceIte]
      exact this

/-- receiver side: its entry has gained `moved` and lost `dropped` -/
theorem recvTours_occ {nw : Network} {s : Schedule} {r : Veh} {rt newRecv : Tour} {PT : Tours}
    {moved dropped : List Nat} (hi : ListInv s) (hd : DummyInv s) (hrt : s.tourOf? r = some rt)
    (hPT : ∀ n, tourOcc nw PT r n = tourOcc nw s.tours r n)
    (hocc : s.isVehicle r = true → ∀ n, occ nw newRecv.nodes n + occ nw dropped n = occ nw rt.nodes n + occ nw moved n)
    (x : Veh) (n : Nat) :
    tourOcc nw (if s.isDummy r then PT else assocSet PT r newRecv) x n
        + indO (realOf s (if s.isVehicle r then some r else none)) x * occ nw dropped n
      = tourOcc nw PT x n + indO (realOf s (if s.isVehicle r then some r else none)) x * occ nw moved n := by
  by_cases hdm : s.isDummy r = true
  · have hv := dummy_not_vehicle hi hd hdm
    simp only [hdm, hv, ↓reduceIte, Bool.false_eq_true, indO_realOf_none, Nat.zero_mul, Nat.add_zero]
  · have hdm' : s.isDummy r = false := by simpa using hdm
    have hget := tourOf_not_dummy hrt hdm'
    have hv := isVehicle_of_tour hi hget
    have ho := congrArg (indO (realOf s (some r)) x * ·) (hocc hv n)
    have := tourOcc_set_real (nw := nw) (T := PT) (t := newRecv) hdm' x n
    rw [hPT n, tourOcc_of_get hget] at this
    simp only [Nat.mul_add] at ho
    simp only [hdm', hv, Bool.false_eq_true, ↓reduceIte]
    -- `[x = r]` times: the occurrences go from `rt` to `newRecv` (this), and `newRecv + dropped = rt + moved` (ho)
    omega

theorem provTours_other {nw : Network} {s : Schedule} {p r : Veh} {shrunk : Option Tour} (hne : p ≠ r) (n : Nat) :
    tourOcc nw (provTours s p shrunk) r n = tourOcc nw s.tours r n := by
  have e : ¬ r = p := fun h => hne h.symm
  unfold provTours
  split
  · rfl
  · split
    · rw [tourOcc_set]; simp only [e, ↓reduceIte]
    · split
      · rw [tourOcc_erase]; simp only [e, ↓reduceIte]
      · rfl

/-- the shared core of `fit_reassign` and `override_reassign`: after `update_tours` the formations agree
    with the new tours, except that a real receiver is still listed on the nodes displaced from its tour -/
theorem reassign_core {nw : Network} {s : Schedule} {p r : Veh} {pt rt newRecv : Tour} {shrunk : Option Tour}
    {moved dropped : List Nat} {w : Work} (hi : ListInv s) (hd : DummyInv s)
    (hf : FormCount nw s.tours s.formations) (hne : p ≠ r)
    (hpt : s.tourOf? p = some pt) (hrt : s.tourOf? r = some rt)
    (hprov : s.isDummy p = false → ∀ n, shrunkOcc nw shrunk n + occ nw moved n = occ nw pt.nodes n)
    (hrecv : s.isVehicle r = true → ∀ n, occ nw newRecv.nodes n + occ nw dropped n = occ nw rt.nodes n + occ nw moved n)
    (hut : updateTours nw s (Work.ofSchedule s) (some p) shrunk r newRecv moved = .ok w) (n : Nat) (x : Veh) :
    (formOf w.forms n).count x
      = tourOcc nw w.tours x n + indO (realOf s (if s.isVehicle r then some r else none)) x * occ nw dropped n := by
  obtain ⟨htours, hcnt⟩ := updateTours_spec hut
  have hC := hcnt n x
  have hA := provTours_occ (nw := nw) (shrunk := shrunk) (moved := moved) hi hpt hprov x n
  have hB := recvTours_occ (nw := nw) (newRecv := newRecv) (PT := provTours s p shrunk) (moved := moved)
    (dropped := dropped) hi hd hrt (fun n => provTours_other hne n) hrecv x n
  have hF := hf n x
  rw [htours]
  generalize indO (realOf s (some p)) x * occ nw moved n = A at *
  generalize indO (realOf s (if s.isVehicle r then some r else none)) x * occ nw moved n = B at *
  generalize indO (realOf s (if s.isVehicle r then some r else none)) x * occ nw dropped n = C at *
  -- count: old - A + B (hC); occurrences: old - A after the provider's part (hA), then + B - C (hB); equal before (hF)
  omega

theorem override_forms {nw : Network} (hn : NetHyp nw) {s s' : Schedule} {p r : Veh} {a b : Nat} {d : Option Veh}
    (hi : ListInv s) (hd : DummyInv s) (ho : ToursOK nw s.tours) (hf : FormCount nw s.tours s.formations)
    (hne : p ≠ r) (h : overrideReassign nw s p r a b = .ok (s', d)) : FormCount nw s'.tours s'.formations := by
  obtain ⟨replaced, x, -, rfl⟩ := overrideReassign_ok h
  have hf2 := x.forms_eq
  have hprov : s.isDummy p = false → ∀ n, shrunkOcc nw x.shrunk n + occ nw x.path n = occ nw x.pt.nodes n :=
    fun hdm => remove_occ (ho p x.pt (tourOf_not_dummy x.prov_eq hdm)) x.remove_eq
  have hrecv : s.isVehicle r = true → ∀ n, occ nw x.newRecv.nodes n + occ nw (replaced.getD []) n
      = occ nw x.rt.nodes n + occ nw x.path n := by
    intro hv n
    have hget := tourOf_not_dummy x.recv_eq (vehicle_not_dummy hi hd hv)
    have hpath : PathOK nw x.path := by
      cases hdm : s.isDummy p with
      | true =>
        -- a piece of a dummy tour goes to a real vehicle only if it is a chain
        have : Tour.isChain nw x.path = true := by simpa [hdm, hv] using x.chain
        exact ⟨this, (removed_facts x.remove_eq).1⟩
      | false => exact removed_pathOK (ho p x.pt (tourOf_not_dummy x.prov_eq hdm)) x.remove_eq
    exact insert_occ nw hn.dt hn.wf hn.ap x.rt x.newRecv x.path replaced (ho r x.rt hget) hpath x.insert_eq n
  intro n v
  have hc := reassign_core hi hd hf hne x.prov_eq x.recv_eq hprov hrecv x.update_eq n v
  show (formOf x.forms n).count v = tourOcc nw x.w.tours v n
  cases replaced with
  | none =>
    simp only [Except.ok.injEq, Prod.mk.injEq] at hf2
    rw [← hf2.1, hc, Option.getD_none, occ_nil, Nat.mul_zero, Nat.add_zero]
  | some np =>
    rw [Option.getD_some] at hc
    dsimp only at hf2
    split at hf2
    · -- the real receiver leaves the formations of the displaced nodes (c2): the surplus `reassign_core` left (hc)
      rename_i hv
      have c2 := updateTrainFormation_count nw s _ (some r) none np _ _ _ _ hf2 n v
      rw [indO_realOf_none] at c2
      rw [if_pos hv] at hc
      omega
    · rename_i hv
      simp only [Except.ok.injEq, Prod.mk.injEq] at hf2
      rw [← hf2.1, hc, if_neg hv, indO_realOf_none, Nat.zero_mul, Nat.add_zero]

theorem dummySpawn_forms {nw : Network} {s s' : Schedule} {d : Veh} {vt : Nat} {v : Veh}
    (hi : ListInv s) (hd : DummyInv s) (hf : FormCount nw s.tours s.formations)
    (h : spawnToReplaceDummy nw s d vt = .ok (s', v)) : FormCount nw s'.tours s'.formations := by
  obtain ⟨_, s1, -, -, hdel, hspawn⟩ := spawnToReplaceDummy_ok h
  have hi1 := deleteDummy_listInv hi hdel
  have hd1 := deleteDummy_dk hd hdel
  obtain ⟨-, -, rfl⟩ := deleteDummy_ok hdel
  exact spawn_forms hi1 hd1 hf hspawn

theorem empty_forms (nw : Network) : FormCount nw (Schedule.empty nw).tours (Schedule.empty nw).formations := by
  intro n v
  have : ∀ f, assocGet? (Schedule.empty nw).formations n = some f → f = [] := by
    intro f hf'
    have hm := assocGet?_mem hf'
    simp only [Schedule.empty, List.mem_map, Prod.mk.injEq] at hm
    obtain ⟨_, _, _, rfl⟩ := hm
    rfl
  show (formOf (Schedule.empty nw).formations n).count v = tourOcc nw [] v n
  unfold formOf tourOcc
  cases hg : assocGet? (Schedule.empty nw).formations n with
  | none => simp [assocGet?_nil]
  | some f =>
    rw [this f hg]
    simp [assocGet?_nil]

/-- argument conditions: provider ≠ receiver in a reassignment (the neighbourhood never offers a vehicle
    its own segment; with provider = receiver /repo, like the model, takes the vehicle off the formations of
    nodes its tour keeps) -/
def ArgsOKF : SOp → Prop
  | .override p r _ _ => p ≠ r
  | .fit p r _ _ => p ≠ r
  | _ => True

end RSSched.C10F
