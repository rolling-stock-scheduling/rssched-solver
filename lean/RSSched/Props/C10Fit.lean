/-
Props/C10Fit: `fit_reassign` — the loop `fit_path_into_tour` — for the formation counts (`C10F.FormCount`)
and the dummy-tour invariant (`DummiesOK`), the dummy-tour invariant under the other public
modifications, and with them the step and every-history theorems for the invariant `Inv`.

The loop is treated once (`fitLoop_inv`), for a class `P` of provider tours closed under `remove`
(`ProvPred`) and a receiver predicate `Q` kept by an insertion without conflict; real and dummy
providers and receivers instantiate it four ways in `fit_loop_facts`.
-/
import RSSched.Props.C10Dummy
namespace RSSched.C10Fit
open Schedule Tour Spec C02 C13 C10T C10L C09C C10S C10F C10D

theorem positionOf_get {t : Tour} {a s : Nat} (h : t.positionOf a = .ok s) : t.nodes[s]? = some a := by
  obtain ⟨hlt, hx, -⟩ := List.findIdx?_eq_some_iff_getElem.mp (positionOf_ok h)
  rw [List.getElem?_eq_getElem hlt, eq_of_beq hx]

theorem nodup_idx_inj {l : List Nat} (hn : l.Nodup) {i j a : Nat} (hi : l[i]? = some a) (hj : l[j]? = some a) :
    i = j := by
  obtain ⟨hil, hie⟩ := List.getElem?_eq_some_iff.mp hi
  obtain ⟨hjl, hje⟩ := List.getElem?_eq_some_iff.mp hj
  exact (List.getElem_inj (h₀ := hil) (h₁ := hjl) hn).mp (by rw [hie, hje])

theorem remove_positions {nw : Network} {t : Tour} {a b : Nat} {ot : Option Tour} {path : List Nat}
    (h : Tour.remove nw t a b = .ok (ot, path)) :
    ∃ s e, t.positionOf a = .ok s ∧ t.positionOf b = .ok e ∧ s ≤ e ∧ e + 1 ≤ t.nodes.length ∧
      path = (t.nodes.drop s).take (e + 1 - s) ∧
      (∀ t', ot = some t' → t'.nodes = t.nodes.take s ++ t.nodes.drop (e + 1)) := by
  obtain ⟨s, e, hs, he, hchk, hlen, hpath, hot⟩ := remove_nodes h
  refine ⟨s, e, hs, he, C09.checkSeqRemovable_le hchk, hlen, hpath, ?_⟩
  rintro t' rfl
  exact hot.1

/-- removing a front piece of a contiguous part of a duplicate-free tour removes exactly that piece and
    leaves the rest of the part contiguous -/
theorem remove_contig {nw : Network} {pc : Tour} {A path B : List Nat} {endPos start segEnd : Nat}
    {ot : Option Tour} {pathIns : List Nat}
    (hnd : pc.nodes.Nodup) (hc : pc.nodes = A ++ path ++ B) (hstart : path[0]? = some start)
    (hend : path[endPos]? = some segEnd) (h : Tour.remove nw pc start segEnd = .ok (ot, pathIns)) :
    pathIns = path.take (endPos + 1) ∧ ∀ t', ot = some t' → t'.nodes = A ++ path.drop (endPos + 1) ++ B := by
  obtain ⟨s, e, hs, he, hse, hel, hpath, hsome⟩ := remove_positions h
  have hep : endPos < path.length := (List.getElem?_eq_some_iff.mp hend).1
  have h1 : pc.nodes[A.length]? = some start := by
    rw [hc, List.append_assoc, List.getElem?_append_right (Nat.le_refl _)]
    simp only [Nat.sub_self]
    rw [List.getElem?_append_left (by omega)]; exact hstart
  have h2 : pc.nodes[A.length + endPos]? = some segEnd := by
    rw [hc, List.append_assoc, List.getElem?_append_right (by omega)]
    rw [show A.length + endPos - A.length = endPos by omega]
    rw [List.getElem?_append_left hep]; exact hend
  have es : s = A.length := nodup_idx_inj hnd (positionOf_get hs) h1
  have ee : e = A.length + endPos := nodup_idx_inj hnd (positionOf_get he) h2
  subst es; subst ee
  constructor
  · rw [hpath, hc, List.append_assoc, List.drop_left']
    · rw [show A.length + endPos + 1 - A.length = endPos + 1 by omega]
      exact List.take_append_of_le_length (by omega)
    · rfl
  · intro t' ht'
    rw [hsome t' ht', hc]
    have e1 : (A ++ path ++ B).take A.length = A := by
      rw [List.append_assoc]; exact List.take_left' rfl
    have e2 : (A ++ path ++ B).drop (A.length + endPos + 1) = path.drop (endPos + 1) ++ B := by
      rw [List.append_assoc, show A.length + endPos + 1 = A.length + (endPos + 1) by omega, ← List.drop_drop,
        List.drop_left' rfl, List.drop_append_of_le_length (by omega)]
    rw [e1, e2, List.append_assoc]

/-- inserting a path between whose ends the receiver has no conflicting activity displaces nothing -/
theorem insert_no_conflict {nw : Network} {recv recv' : Tour} {start segEnd : Nat} {pathIns : List Nat}
    {rm : Option (List Nat)} (hreal : recv.isDummy = false)
    (hhead : pathIns[0]? = some start) (hlast : pathIns[pathIns.length - 1]? = some segEnd)
    (hconf : Tour.conflict nw true recv start segEnd = .ok none)
    (hins : insertPath nw true recv pathIns = .ok (recv', rm)) : rm = none := by
  obtain ⟨pl, hpl, -, -, rfl⟩ := insertPath_plan hins
  obtain ⟨first, last, hf, hl, hpos, hold, hnew⟩ := insertPlan_ends hpl
  rw [hnew hreal, hhead] at hf
  rw [hnew hreal, hlast] at hl
  cases hf
  cases hl
  -- `conflict` looks at the same slice of the receiver as the plan of the insertion
  unfold Tour.conflict at hconf
  obtain ⟨⟨s, e⟩, hpos', hconf⟩ := bind_ok hconf
  obtain ⟨sl, hsl, hconf⟩ := bind_ok hconf
  rw [hpos'] at hpos
  cases hpos
  rw [hsl] at hold
  cases hold
  exact Except.ok.inj hconf

/-- `fit_path_into_tour`, one round (`Schedule.fitLoop_succ_ok`) -/
theorem fitLoop_round {nw : Network} {chk : Bool} {fuel : Nat} {prov : Option Tour} {recv : Tour}
    {path moved : List Nat} {res : Option Tour × Tour × List Nat}
    (h : fitLoop nw chk (fuel + 1) prov recv (some path) moved = .ok res) :
    ∃ start endPos segEnd pc, path[0]? = some start ∧ path[endPos]? = some segEnd ∧ prov = some pc ∧
      (fitLoop nw chk fuel prov recv (pathTrusted nw (path.drop (endPos + 1))) moved = .ok res ∨
       ∃ provCand pathIns recv' rm, Tour.remove nw pc start segEnd = .ok (provCand, pathIns) ∧
         ¬(chk && !(Tour.isChain nw pathIns)) = true ∧
         Tour.conflict nw true recv start segEnd = .ok none ∧
         insertPath nw true recv pathIns = .ok (recv', rm) ∧
         fitLoop nw chk fuel provCand recv' (pathTrusted nw (path.drop (endPos + 1)))
           (moved ++ path.take (endPos + 1)) = .ok res) :=
  fitLoop_succ_ok h

/-- what the loop needs to know about a piece cut out of the provider -/
structure PathFacts (nw : Network) (real : Bool) (path : List Nat) : Prop where
  act : hasNonDepot nw path = true
  chain : real = true → chainB nw path = true
  pw : PW nw path
  inner : InnerAct nw path

/-- a class of provider tours closed under `remove` -/
structure ProvPred (nw : Network) (real : Bool) (P : Tour → Prop) : Prop where
  nodup : ∀ t, P t → t.nodes.Nodup
  rem : ∀ t a b t' path, P t → Tour.remove nw t a b = .ok (some t', path) → P t'
  facts : ∀ t a b ot path, P t → Tour.remove nw t a b = .ok (ot, path) → PathFacts nw real path
  noneOcc : ∀ t a b path, P t → Tour.remove nw t a b = .ok (none, path) → ∀ n, occ nw t.nodes n = occ nw path n

/-- the remaining path is a contiguous part of the provider's tour -/
def Contig (prov : Option Tour) (rem : Option (List Nat)) : Prop :=
  ∀ path pc, rem = some path → prov = some pc → ∃ A B, pc.nodes = A ++ path ++ B

theorem subPath_contig {nw : Network} {pt : Tour} {a b : Nat} {path : List Nat}
    (hsub : Tour.subPath nw pt a b = .ok path) :
    Contig (some pt) (some path) ∧ ∀ n ∈ path, n ∈ pt.nodes := by
  obtain ⟨s0, e0, -, -, h1, -, rfl⟩ := subPath_ok hsub
  constructor
  · rintro _ _ ⟨⟩ ⟨⟩
    exact ⟨pt.nodes.take s0, pt.nodes.drop (e0 + 1), take_drop_split pt.nodes s0 (e0 + 1) (Nat.le_succ_of_le h1)⟩
  · intro n hn
    exact List.mem_of_mem_drop (List.mem_of_mem_take hn)

theorem fitLoop_inv (nw : Network) (chk real : Bool) (P : Tour → Prop) (Q : Tour → List Nat → Prop)
    (hP : ProvPred nw real P)
    (hQ : ∀ r mv start segEnd pathIns r' rm, Q r mv → PathFacts nw real pathIns →
      ¬(chk && !(Tour.isChain nw pathIns)) = true →
      pathIns[0]? = some start → pathIns[pathIns.length - 1]? = some segEnd →
      Tour.conflict nw true r start segEnd = .ok none → insertPath nw true r pathIns = .ok (r', rm) →
      Q r' (mv ++ pathIns)) :
    ∀ (fuel : Nat) (prov : Option Tour) (recv : Tour) (rem : Option (List Nat)) (moved : List Nat)
      (np : Option Tour) (nr : Tour) (mv : List Nat),
      fitLoop nw chk fuel prov recv rem moved = .ok (np, nr, mv) →
      (∀ pc, prov = some pc → P pc) → Contig prov rem → Q recv moved →
      (∀ pc, np = some pc → P pc) ∧ Q nr mv ∧
        ∀ n, shrunkOcc nw np n + occ nw mv n = shrunkOcc nw prov n + occ nw moved n := by
  intro fuel prov recv rem moved np nr mv h hp hc hq
  have key := fitLoop_induct
    (I := fun prov' recv' rem' moved' => (∀ pc, prov' = some pc → P pc) ∧ Contig prov' rem' ∧ Q recv' moved' ∧
      ∀ n, shrunkOcc nw prov' n + occ nw moved' n = shrunkOcc nw prov n + occ nw moved n)
    ?_ ?_ fuel prov recv rem moved np nr mv ⟨hp, hc, hq, fun _ => rfl⟩ h
  · obtain ⟨_, r1, -, r2, r3⟩ := key
    exact ⟨r1, r2, r3⟩
  · -- nothing moved in this round
    rintro prov' recv' path moved' k ⟨hp, hc, hq, ho⟩
    refine ⟨hp, fun p' pc hp' hpc => ?_, hq, ho⟩
    obtain ⟨A, B, hAB⟩ := hc path pc rfl hpc
    have := pathTrusted_some hp'
    subst this
    refine ⟨A ++ path.take (k + 1), B, ?_⟩
    rw [hAB, List.append_assoc A (path.take _), List.take_append_drop]
  · -- the front piece moved
    rintro pc recv' path moved' endPos start segEnd provCand pathIns recv'' rm ⟨hp, hc, hq, ho⟩ hstart hend hrem hchk
      hconf hins
    obtain ⟨A, B, hAB⟩ := hc path pc rfl rfl
    have hep : endPos < path.length := (List.getElem?_eq_some_iff.mp hend).1
    have hPpc := hp pc rfl
    obtain ⟨hpi, hcand⟩ := remove_contig (hP.nodup pc hPpc) hAB hstart hend hrem
    have hfacts := hP.facts pc start segEnd provCand pathIns hPpc hrem
    have hhead : pathIns[0]? = some start := by
      rw [hpi, List.getElem?_take_of_lt (by omega)]; exact hstart
    have hlen : pathIns.length = endPos + 1 := by rw [hpi, List.length_take]; omega
    have hlast : pathIns[pathIns.length - 1]? = some segEnd := by
      rw [hlen, hpi, show endPos + 1 - 1 = endPos by omega, List.getElem?_take_of_lt (by omega)]; exact hend
    rw [← hpi]
    refine ⟨fun t' ht' => ?_, fun p' t' hp'' ht' => ?_,
      hQ recv' moved' start segEnd pathIns recv'' rm hq hfacts hchk hhead hlast hconf hins, fun n => ?_⟩
    · subst ht'
      exact hP.rem pc start segEnd t' pathIns hPpc hrem
    · have := pathTrusted_some hp''
      subst this
      exact ⟨A, B, hcand t' ht'⟩
    · have h3 := ho n
      rw [occ_append]
      have hocc : shrunkOcc nw provCand n + occ nw pathIns n = shrunkOcc nw (some pc) n := by
        cases provCand with
        | some t' => simp only [shrunkOcc]; have := remove_some_occ hrem n; omega
        | none => simp only [shrunkOcc]; have := hP.noneOcc pc start segEnd pathIns hPpc hrem n; omega
      omega

theorem provPred_real {nw : Network} (hn : NetHyp nw) : ProvPred nw true (TourOK nw) where
  nodup := fun _ ht => tourOK_nodup hn.dt hn.wf hn.ap ht
  rem := fun t a b t' path ht h => remove_tourOK nw t t' a b path ht h
  facts := fun t a b ot path ht h => by
    obtain ⟨s, e, _, _, hsp, _, _⟩ := remove_split h
    exact ⟨(removed_facts h).1, fun _ => (removed_facts h).2 ht.chain, removed_pw (tourOK_pw hn.dt hn.wf ht) h,
      innerAct_of_contig hn.dt hn.wf hn.ap ht hsp⟩
  noneOcc := fun t a b path ht h n => remove_none_occ ht h n

theorem provPred_dummy {nw : Network} (hn : NetHyp nw) : ProvPred nw false (DummyOK nw) where
  nodup := fun _ ht => nodup_of_pw hn.ap ht.acts ht.pw
  rem := fun t a b t' path ht h => remove_dummyOK ht h
  facts := fun t a b ot path ht h => by
    obtain ⟨s, e, _, _, hsp, _, _⟩ := remove_split h
    refine ⟨(removed_facts h).1, fun hf => (by cases hf), removed_pw ht.pw h, innerAct_of_acts ?_⟩
    intro x hx
    exact ht.acts x (by rw [hsp]; simp [hx])
  noneOcc := fun t a b path ht h n => by
    obtain ⟨s, e, _, _, hsp, _, hnone⟩ := remove_split h
    rcases hnone rfl with he | ⟨hreal, _⟩
    · obtain ⟨h1, h2⟩ := List.append_eq_nil_iff.mp he
      conv => lhs; rw [hsp, h1, h2, List.nil_append, List.append_nil]
    · rw [ht.dummy] at hreal; cases hreal

/-- `Path::new` accepts a piece of a real provider, or one that passed the check of finding F18 -/
theorem pathOK_of_facts {nw : Network} {chk real : Bool} {path : List Nat} (hf : PathFacts nw real path)
    (hchk : ¬(chk && !(Tour.isChain nw path)) = true) (hor : real = true ∨ chk = true) : PathOK nw path := by
  rcases hor with hr | hc
  · exact ⟨hf.chain hr, hf.act⟩
  · subst hc
    exact ⟨chainB_of_check hchk, hf.act⟩

/-- receiver predicate for a real receiver: valid tour, and it has gained exactly what moved -/
def QReal (nw : Network) (recv0 : Tour) (moved0 : List Nat) (r : Tour) (mv : List Nat) : Prop :=
  TourOK nw r ∧ ∀ n, occ nw r.nodes n + occ nw moved0 n = occ nw recv0.nodes n + occ nw mv n

theorem qReal_step {nw : Network} (hn : NetHyp nw) {chk real : Bool} (hor : real = true ∨ chk = true)
    (recv0 : Tour) (moved0 : List Nat) :
    ∀ r mv start segEnd pathIns r' rm, QReal nw recv0 moved0 r mv → PathFacts nw real pathIns →
      ¬(chk && !(Tour.isChain nw pathIns)) = true →
      pathIns[0]? = some start → pathIns[pathIns.length - 1]? = some segEnd →
      Tour.conflict nw true r start segEnd = .ok none → insertPath nw true r pathIns = .ok (r', rm) →
      QReal nw recv0 moved0 r' (mv ++ pathIns) := by
  intro r mv start segEnd pathIns r' rm hq hf hchk hhead hlast hconf hins
  have hpath := pathOK_of_facts hf hchk hor
  have hrm := insert_no_conflict hq.1.real hhead hlast hconf hins
  subst hrm
  refine ⟨insert_tourOK nw hn.dt hn.wf r r' pathIns none hq.1 hpath hins, fun n => ?_⟩
  have h1 := insert_occ nw hn.dt hn.wf hn.ap r r' pathIns none hq.1 hpath hins n
  have h2 := hq.2 n
  simp only [Option.getD_none, occ_nil] at h1
  rw [occ_append]
  omega

def QDummy (nw : Network) (r : Tour) (_mv : List Nat) : Prop := DummyOK nw r

theorem qDummy_step {nw : Network} (hn : NetHyp nw) {chk real : Bool} :
    ∀ r mv start segEnd pathIns r' rm, QDummy nw r mv → PathFacts nw real pathIns →
      ¬(chk && !(Tour.isChain nw pathIns)) = true →
      pathIns[0]? = some start → pathIns[pathIns.length - 1]? = some segEnd →
      Tour.conflict nw true r start segEnd = .ok none → insertPath nw true r pathIns = .ok (r', rm) →
      QDummy nw r' (mv ++ pathIns) := by
  intro r mv start segEnd pathIns r' rm hq hf _ _ _ _ hins
  exact insert_dummyOK nw hn.dt hn.wf hn.ap r r' pathIns rm hq hf.pw (strip_nodepot hf.inner) hins

theorem bool_contra {b : Bool} {C : Prop} (h1 : b = true) (h2 : b = false) : C := by
  rw [h1] at h2; cases h2

def DummiesOK (nw : Network) (T : Tours) : Prop := ∀ d t, assocGet? T d = some t → DummyOK nw t

theorem tourOf_dummy {s : Schedule} (hi : ListInv s) (hd : DummyInv s) {v : Veh} {t : Tour}
    (h : s.tourOf? v = some t) (hdm : s.isDummy v = true) : assocGet? s.dummyTours v = some t := by
  unfold Schedule.tourOf? at h
  split at h
  · rename_i t' ht'
    have hv : s.isVehicle v = true := isVehicle_of_tour hi ht'
    have := dummy_not_vehicle hi hd hdm
    rw [hv] at this; cases this
  · exact h

theorem dummy_of_not_vehicle {s : Schedule} (hi : ListInv s) {v : Veh} {t : Tour} (h : s.tourOf? v = some t)
    (hv : ¬ s.isVehicle v = true) : s.isDummy v = true := by
  cases hdm : s.isDummy v with
  | true => rfl
  | false => exact absurd (isVehicle_of_tour hi (tourOf_not_dummy h hdm)) hv

/-- the loop of `fit_reassign` from outside: counted over activities the provider loses exactly the moved
    nodes and a real receiver gains them; valid real tours and valid dummy tours stay so -/
theorem fit_loop_facts {nw : Network} (hn : NetHyp nw) {s : Schedule} {p r : Veh} {a b : Nat} {pt rt : Tour}
    {path moved : List Nat} {newProv : Option Tour} {newRecv : Tour}
    (hi : ListInv s) (hd : DummyInv s) (ho : ToursOK nw s.tours) (hdo : DummiesOK nw s.dummyTours)
    (hpt : s.tourOf? p = some pt) (hrt : s.tourOf? r = some rt)
    (hsub : Tour.subPath nw pt a b = .ok path)
    (hloop : fitLoop nw (s.isDummy p && s.isVehicle r) (path.length + 1) (some pt) rt (some path) []
      = .ok (newProv, newRecv, moved)) :
    (s.isDummy p = false → ∀ n, shrunkOcc nw newProv n + occ nw moved n = occ nw pt.nodes n) ∧
    (s.isVehicle r = true → ∀ n, occ nw newRecv.nodes n + occ nw [] n = occ nw rt.nodes n + occ nw moved n) ∧
    (s.isDummy p = false → ∀ t, newProv = some t → TourOK nw t) ∧
    (s.isVehicle r = true → TourOK nw newRecv) ∧
    (s.isDummy p = true → ∀ t, newProv = some t → DummyOK nw t) ∧
    (s.isDummy r = true → DummyOK nw newRecv) := by
  have hcontig := (subPath_contig hsub).1
  by_cases hpd : s.isDummy p = true
  · have hptd := hdo p pt (tourOf_dummy hi hd hpt hpd)
    by_cases hrv : s.isVehicle r = true
    · -- dummy provider, real receiver: the path check is on
      have hrnd := vehicle_not_dummy hi hd hrv
      have hrtok := ho r rt (tourOf_not_dummy hrt hrnd)
      have hchk : (s.isDummy p && s.isVehicle r) = true := by simp [hpd, hrv]
      rw [hchk] at hloop
      obtain ⟨r1, r2, r3⟩ := fitLoop_inv nw true false (DummyOK nw) (QReal nw rt []) (provPred_dummy hn)
        (qReal_step hn (Or.inr rfl) rt []) _ _ _ _ _ _ _ _ hloop
        (fun pc e => by cases e; exact hptd) hcontig ⟨hrtok, fun _ => rfl⟩
      refine ⟨fun h => bool_contra hpd h, fun _ n => ?_, fun h => bool_contra hpd h,
        fun _ => r2.1, fun _ => r1, fun h => bool_contra h hrnd⟩
      have := r2.2 n
      simp only [occ_nil] at this ⊢
      omega
    · -- dummy provider, dummy receiver
      have hrd := dummy_of_not_vehicle hi hrt hrv
      have hrtd := hdo r rt (tourOf_dummy hi hd hrt hrd)
      obtain ⟨r1, r2, r3⟩ := fitLoop_inv nw _ false (DummyOK nw) (QDummy nw) (provPred_dummy hn)
        (qDummy_step hn) _ _ _ _ _ _ _ _ hloop
        (fun pc e => by cases e; exact hptd) hcontig hrtd
      exact ⟨fun h => bool_contra hpd h, fun h => absurd h hrv, fun h => bool_contra hpd h,
        fun h => absurd h hrv, fun _ => r1, fun _ => r2⟩
  · have hpd' : s.isDummy p = false := by simpa using hpd
    have hptok := ho p pt (tourOf_not_dummy hpt hpd')
    have hprovEq : ∀ (np : Option Tour) (mv : List Nat),
        (∀ n, shrunkOcc nw np n + occ nw mv n = shrunkOcc nw (some pt) n + occ nw [] n) →
        ∀ n, shrunkOcc nw np n + occ nw mv n = occ nw pt.nodes n := by
      intro np mv h n
      have := h n
      simp only [shrunkOcc, occ_nil] at this ⊢
      omega
    by_cases hrv : s.isVehicle r = true
    · have hrnd := vehicle_not_dummy hi hd hrv
      have hrtok := ho r rt (tourOf_not_dummy hrt hrnd)
      obtain ⟨r1, r2, r3⟩ := fitLoop_inv nw _ true (TourOK nw) (QReal nw rt []) (provPred_real hn)
        (qReal_step hn (Or.inl rfl) rt []) _ _ _ _ _ _ _ _ hloop
        (fun pc e => by cases e; exact hptok) hcontig ⟨hrtok, fun _ => rfl⟩
      refine ⟨fun _ => hprovEq _ _ r3, fun _ n => ?_, fun _ => r1, fun _ => r2.1,
        fun h => bool_contra h hpd', fun h => bool_contra h hrnd⟩
      have := r2.2 n
      simp only [occ_nil] at this ⊢
      omega
    · have hrd := dummy_of_not_vehicle hi hrt hrv
      have hrtd := hdo r rt (tourOf_dummy hi hd hrt hrd)
      obtain ⟨r1, r2, r3⟩ := fitLoop_inv nw _ true (TourOK nw) (QDummy nw) (provPred_real hn)
        (qDummy_step hn) _ _ _ _ _ _ _ _ hloop
        (fun pc e => by cases e; exact hptok) hcontig hrtd
      exact ⟨fun _ => hprovEq _ _ r3, fun h => absurd h hrv, fun _ => r1, fun h => absurd h hrv,
        fun h => bool_contra h hpd', fun _ => r2⟩

theorem fit_forms {nw : Network} (hn : NetHyp nw) {s s' : Schedule} {p r : Veh} {a b : Nat}
    (hi : ListInv s) (hd : DummyInv s) (ho : ToursOK nw s.tours) (hdo : DummiesOK nw s.dummyTours)
    (hf : FormCount nw s.tours s.formations) (hne : p ≠ r)
    (h : fitReassign nw s p r a b = .ok s') : FormCount nw s'.tours s'.formations := by
  obtain ⟨x, rfl⟩ := fitReassign_ok h
  obtain ⟨f1, f2, -⟩ := fit_loop_facts hn hi hd ho hdo x.prov_eq x.recv_eq x.path_eq x.loop_eq
  intro n v
  have := reassign_core (dropped := []) hi hd hf hne x.prov_eq x.recv_eq f1 f2 x.update_eq n v
  rw [occ_nil, Nat.mul_zero, Nat.add_zero] at this
  exact this

theorem dok_parkDummy {nw : Network} {T : Tours} {ids : List Veh} {c : Nat} {path : List Nat}
    (h : DummiesOK nw T) (hp : PW nw path) : DummiesOK nw (parkDummy nw T ids c path).1 :=
  parkDummy_keeps (Q := fun T _ => DummiesOK nw T) h (fun _ hdt => forall_assocSet h (newDummy_dummyOK hp hdt))

theorem utc_dok {nw : Network} {s : Schedule} {tours dummyTours : Tours} {costs : Nat} {v : Veh} {t : Tour}
    {r : Tours × Tours × Nat} (hd : DummiesOK nw dummyTours) (ht : s.isDummy v = true → DummyOK nw t)
    (h : updateTourAndCosts s tours dummyTours costs v t = .ok r) : DummiesOK nw r.2.1 := by
  rcases updateTourAndCosts_ok h with ⟨hdm, rfl⟩ | ⟨-, _, -, -, rfl⟩
  · exact forall_assocSet hd (ht hdm)
  · exact hd

theorem updateTours_dok {nw : Network} {s : Schedule} {w' : Work} {p r : Veh} {newProv : Option Tour}
    {newRecv : Tour} {moved : List Nat} (hdo : DummiesOK nw s.dummyTours)
    (hp : s.isDummy p = true → ∀ t, newProv = some t → DummyOK nw t)
    (hr : s.isDummy r = true → DummyOK nw newRecv)
    (h : updateTours nw s (Work.ofSchedule s) (some p) newProv r newRecv moved = .ok w') :
    DummiesOK nw w'.dummyTours := by
  obtain ⟨w0, _, _, _, _, _, _, _, hprov, -, hutc, -, -, rfl⟩ := updateTours_ok h
  have h0 : DummiesOK nw w0.dummyTours := by
    cases hprov with
    | shrunk hu => exact utc_dok hdo (fun hdm => hp hdm _ rfl) hu
    | dummyGone _ _ _ => exact forall_assocErase hdo
    | vehicleGone _ _ _ _ _ => exact hdo
    | absent _ _ => exact hdo
  exact utc_dok h0 hr hutc

theorem insert_rm_sublist (nw : Network) (hd : C17.DepotTimes nw) (hw : NodesWF' nw) (t t' : Tour)
    (path np : List Nat) (hc : TimeChain nw t.nodes) (hne : 0 < t.nodes.length)
    (h : insertPath nw true t path = .ok (t', some np)) : np.Sublist t.nodes := by
  obtain ⟨-, -, hrm, -⟩ := insertPath_ref nw hd hw hc hne h
  rw [pathTrusted_some hrm.symm]
  unfold insertRef
  exact slice_sublist _ _ _

theorem tour_pw {nw : Network} (hn : NetHyp nw) {s : Schedule} (hi : ListInv s) (hd : DummyInv s)
    (ho : ToursOK nw s.tours) (hdo : DummiesOK nw s.dummyTours) {v : Veh} {t : Tour} (h : s.tourOf? v = some t) :
    PW nw t.nodes ∧ 0 < t.nodes.length := by
  by_cases hdm : s.isDummy v = true
  · have := hdo v t (tourOf_dummy hi hd h hdm)
    exact ⟨this.pw, List.length_pos_iff.mpr this.ne⟩
  · have hok := ho v t (tourOf_not_dummy h (by simpa using hdm))
    exact ⟨tourOK_pw hn.dt hn.wf hok, by have := shape_len hok.shape; omega⟩

theorem subPath_pw {nw : Network} {t : Tour} {a b : Nat} {path : List Nat} (hp : PW nw t.nodes)
    (h : Tour.subPath nw t a b = .ok path) : PW nw path := by
  obtain ⟨s, e, -, -, -, -, rfl⟩ := subPath_ok h
  exact pw_sublist (slice_sublist _ _ _) hp

theorem spawn_dok {nw : Network} {s s' : Schedule} {vt : Nat} {path : List Nat} {v : Veh}
    (hdo : DummiesOK nw s.dummyTours) (h : spawnVehicleForPath nw s vt path = .ok (s', v)) :
    DummiesOK nw s'.dummyTours := by
  obtain ⟨_, rfl⟩ := spawnVehicleForPath_ok h
  exact hdo

theorem dummySpawn_dok {nw : Network} {s s' : Schedule} {d : Veh} {vt : Nat} {v : Veh}
    (hdo : DummiesOK nw s.dummyTours) (h : spawnToReplaceDummy nw s d vt = .ok (s', v)) :
    DummiesOK nw s'.dummyTours := by
  obtain ⟨_, s1, -, -, hdel, hspawn⟩ := spawnToReplaceDummy_ok h
  obtain ⟨-, -, rfl⟩ := deleteDummy_ok hdel
  refine spawn_dok ?_ hspawn
  exact forall_assocErase hdo

theorem delete_dok {nw : Network} (hn : NetHyp nw) {s s' : Schedule} {v : Veh}
    (ho : ToursOK nw s.tours) (hdo : DummiesOK nw s.dummyTours)
    (h : replaceVehicleByDummy nw s v = .ok s') : DummiesOK nw s'.dummyTours := by
  obtain ⟨r, rfl⟩ := replaceVehicleByDummy_ok h
  exact dok_parkDummy hdo (subPath_pw (tourOK_pw hn.dt hn.wf (ho v r.tour r.tour_eq)) r.sub_eq)

theorem addPath_dok {nw : Network} {s s' : Schedule} {v : Veh} {path : List Nat} {rm : Option (List Nat)}
    (hdo : DummiesOK nw s.dummyTours) (h : addPathToVehicleTour nw s v path = .ok (s', rm)) :
    DummiesOK nw s'.dummyTours := by
  obtain ⟨_, rfl⟩ := addPathToVehicleTour_ok h
  exact hdo

theorem rmSeg_dok {nw : Network} (hn : NetHyp nw) {s s' : Schedule} {v : Veh} {a b : Nat}
    (hi : ListInv s) (hd : DummyInv s) (ho : ToursOK nw s.tours) (hdo : DummiesOK nw s.dummyTours)
    (h : removeSegment nw s v a b = .ok s') : DummiesOK nw s'.dummyTours := by
  obtain ⟨tour, shrunk, removed, hv, htour, hrem, h⟩ := removeSegment_ok h
  cases shrunk with
  | none => exact delete_dok hn ho hdo h
  | some newTour =>
    obtain ⟨r, rfl⟩ := h
    rw [(tourOf_vehicle hi hv).1] at htour
    have hnd := vehicle_not_dummy hi hd hv
    have hu : DummiesOK nw r.dummy0 := utc_dok hdo (fun hdm => bool_contra hdm hnd) r.tours_eq
    exact dok_parkDummy hu (removed_pw (tourOK_pw hn.dt hn.wf (ho v tour htour)) hrem)

theorem fit_dok {nw : Network} (hn : NetHyp nw) {s s' : Schedule} {p r : Veh} {a b : Nat}
    (hi : ListInv s) (hd : DummyInv s) (ho : ToursOK nw s.tours) (hdo : DummiesOK nw s.dummyTours)
    (h : fitReassign nw s p r a b = .ok s') : DummiesOK nw s'.dummyTours := by
  obtain ⟨x, rfl⟩ := fitReassign_ok h
  obtain ⟨-, -, -, -, f5, f6⟩ := fit_loop_facts hn hi hd ho hdo x.prov_eq x.recv_eq x.path_eq x.loop_eq
  exact updateTours_dok hdo f5 f6 x.update_eq

theorem override_dok {nw : Network} (hn : NetHyp nw) {s s' : Schedule} {p r : Veh} {a b : Nat} {d : Option Veh}
    (hi : ListInv s) (hd : DummyInv s) (ho : ToursOK nw s.tours) (hdo : DummiesOK nw s.dummyTours)
    (h : overrideReassign nw s p r a b = .ok (s', d)) : DummiesOK nw s'.dummyTours := by
  obtain ⟨replaced, x, -, rfl⟩ := overrideReassign_ok h
  obtain ⟨hptpw, -⟩ := tour_pw hn hi hd ho hdo x.prov_eq
  obtain ⟨hrtpw, hrtne⟩ := tour_pw hn hi hd ho hdo x.recv_eq
  have hwd : DummiesOK nw x.w.dummyTours := by
    apply updateTours_dok hdo ?_ ?_ x.update_eq
    · intro hdm t e
      exact remove_dummyOK (hdo p x.pt (tourOf_dummy hi hd x.prov_eq hdm)) (e ▸ x.remove_eq)
    · intro hdm
      have hinner : InnerAct nw x.path := by
        obtain ⟨_, _, -, -, hsp, -, -⟩ := remove_split x.remove_eq
        by_cases hpd : s.isDummy p = true
        · have hptd := hdo p x.pt (tourOf_dummy hi hd x.prov_eq hpd)
          exact innerAct_of_acts (fun y hy => hptd.acts y (by rw [hsp]; simp [hy]))
        · exact innerAct_of_contig hn.dt hn.wf hn.ap (ho p x.pt (tourOf_not_dummy x.prov_eq (by simpa using hpd))) hsp
      exact insert_dummyOK nw hn.dt hn.wf hn.ap x.rt x.newRecv x.path replaced
        (hdo r x.rt (tourOf_dummy hi hd x.recv_eq hdm)) (removed_pw hptpw x.remove_eq) (strip_nodepot hinner)
        x.insert_eq
  cases replaced with
  | none => exact hwd
  | some np =>
    -- what the insertion displaced is a piece of the receiver's old tour
    have hsub := insert_rm_sublist nw hn.dt hn.wf x.rt x.newRecv x.path np (timeChain_of_pw nw x.rt.nodes hrtpw) hrtne
      x.insert_eq
    exact dok_parkDummy hwd (pw_sublist hsub hrtpw)

structure Inv (nw : Network) (s : Schedule) : Prop where
  tinv : TInv nw s
  dok : DummiesOK nw s.dummyTours
  forms : FormCount nw s.tours s.formations

theorem empty_inv (nw : Network) : Inv nw (Schedule.empty nw) :=
  ⟨⟨empty_listInv nw, empty_dk nw, toursP_empty nw⟩,
    fun d t hget => by simp [Schedule.empty, assocGet?_nil] at hget, empty_forms nw⟩

theorem depotOnly_dok {nw : Network} {s s' : Schedule} (hdo : DummiesOK nw s.dummyTours) (h : DepotOnly s s') :
    DummiesOK nw s'.dummyTours := by
  obtain ⟨_, _, _, _, _, rfl⟩ := h
  exact hdo

theorem dok_step (nw : Network) (hn : NetHyp nw) (s : Schedule) (op : SOp) (r : OpResult)
    (hinv : Inv nw s) (h : applyOp nw s op = .ok r) : DummiesOK nw r.sched.dummyTours := by
  obtain ⟨⟨hi, hd, ho⟩, hdo, -⟩ := hinv
  exact applyOp_cases (motive := fun _ s' => DummiesOK nw s'.dummyTours)
    (empty_inv nw).dok
    (fun _ _ _ _ => spawn_dok hdo)
    (fun _ _ _ _ => dummySpawn_dok hdo)
    (fun _ _ => delete_dok hn ho hdo)
    (fun _ _ _ _ _ _ => addPath_dok hdo)
    (fun _ _ _ _ => rmSeg_dok hn hi hd ho hdo)
    (fun _ _ _ _ _ => fit_dok hn hi hd ho hdo)
    (fun _ _ _ _ _ _ => override_dok hn hi hd ho hdo)
    (fun _ _ hs => depotOnly_dok hdo (improveDepots_depotOnly hs))
    (fun _ hs => depotOnly_dok hdo (reassignEndDepotsGreedily_depotOnly hs))
    (fun _ _ hs => depotOnly_dok hdo (recomputeTransitionsFor_depotOnly hs))
    (fun _ hs => depotOnly_dok hdo (reassignEndDepotsConsistent_depotOnly hs))
    (fun _ _ _ _ _ _ _ => hdo)
    h

theorem forms_step (nw : Network) (hn : NetHyp nw) (s : Schedule) (op : SOp) (r : OpResult)
    (hinv : Inv nw s) (hargs : ArgsOKF op) (h : applyOp nw s op = .ok r) :
    FormCount nw r.sched.tours r.sched.formations := by
  obtain ⟨⟨hi, hd, ho⟩, hdo, hf⟩ := hinv
  exact applyOp_cases (motive := fun op s' => ArgsOKF op → FormCount nw s'.tours s'.formations)
    (fun _ => empty_forms nw)
    (fun _ _ _ _ hs _ => spawn_forms hi hd hf hs)
    (fun _ _ _ _ hs _ => dummySpawn_forms hi hd hf hs)
    (fun _ _ hs _ => delete_forms hi hd hf hs)
    (fun _ _ _ _ _ hp hs _ => addPath_forms hn hi hd ho (pathNew_pathOK hp) hf hs)
    (fun _ _ _ _ hs _ => rmSeg_forms hi hd hf hs)
    (fun _ _ _ _ _ hs hne => fit_forms hn hi hd ho hdo hf hne hs)
    (fun _ _ _ _ _ _ hs hne => override_forms hn hi hd ho hf hne hs)
    (fun _ _ hs _ => by
      rw [depotOnly_forms (improveDepots_depotOnly hs)]
      exact formCount_of_sameOcc hf (improve_sameOcc hi ho hs))
    (fun _ hs _ => by
      rw [depotOnly_forms (reassignEndDepotsGreedily_depotOnly hs)]
      exact formCount_of_sameOcc hf (endGreedy_sameOcc hi ho hs))
    (fun _ _ hs _ => by
      obtain ⟨_, _, -, rfl⟩ := recomputeTransitionsFor_ok hs
      exact hf)
    (fun _ hs _ => by
      rw [depotOnly_forms (reassignEndDepotsConsistent_depotOnly hs)]
      exact formCount_of_sameOcc hf (endConsistent_sameOcc hi ho hs))
    (fun _ _ _ _ _ _ _ _ => hf)
    h hargs

/-- **C10 (formation membership, dummy tours), one step**: every public modification of the model —
    with provider ≠ receiver for reassignments — preserves the invariant -/
theorem C10_forms_step (nw : Network) (hn : NetHyp nw) (s : Schedule) (op : SOp) (r : OpResult)
    (hinv : Inv nw s) (hargs : ArgsOKF op) (h : applyOp nw s op = .ok r) : Inv nw r.sched :=
  ⟨C10_tours_step nw hn.dt hn.wf s op r hinv.tinv h, dok_step nw hn s op r hinv h,
    forms_step nw hn s op r hinv hargs h⟩

theorem C10_forms_reachable (nw : Network) (hn : NetHyp nw) : ∀ (ops : List SOp) (s s' : Schedule),
    Inv nw s → (∀ op ∈ ops, ArgsOKF op) → runOps nw s ops = some s' → Inv nw s' :=
  runOps_induct (fun s op r hinv hargs => C10_forms_step nw hn s op r hinv hargs)

/-- **C10 / C03 (formation membership and dummy tours), every history**: in every schedule the model
    reaches from the empty schedule by public modifications (provider ≠ receiver in reassignments), every
    vehicle is listed in a node's formation as often as the node occurs among the activities of its tour,
    and every dummy tour is a non-empty, time-ordered list of activities -/
theorem C10_forms_from_empty (nw : Network) (hn : NetHyp nw) (ops : List SOp) (s' : Schedule)
    (hargs : ∀ op ∈ ops, ArgsOKF op) (h : runOps nw (Schedule.empty nw) ops = some s') : Inv nw s' :=
  C10_forms_reachable nw hn ops _ s' (empty_inv nw) hargs h

theorem occ_le_one {nw : Network} {l : List Nat} (hn : l.Nodup) (n : Nat) : occ nw l n ≤ 1 := by
  unfold occ
  have : (l.filter (fun x => !(nw.node x).isDepot)).Nodup := List.Nodup.sublist List.filter_sublist hn
  exact List.nodup_iff_count.mp this n

theorem occ_pos_iff {nw : Network} {l : List Nat} (n : Nat) :
    0 < occ nw l n ↔ n ∈ l ∧ (nw.node n).isDepot = false := by
  unfold occ
  rw [List.count_pos_iff, List.mem_filter]
  simp

/-- **formation membership**: a vehicle is listed at most once in every formation, and it is listed
    in the formation of `n` iff `n` is an activity on its own tour -/
theorem C10_formation_membership {nw : Network} (hn : NetHyp nw) {s : Schedule} (hinv : Inv nw s) (n : Nat) :
    (formOf s.formations n).Nodup ∧
    ∀ v, v ∈ formOf s.formations n ↔ ∃ t, assocGet? s.tours v = some t ∧ n ∈ t.nodes ∧ (nw.node n).isDepot = false := by
  have hle : ∀ v, tourOcc nw s.tours v n ≤ 1 := by
    intro v
    unfold tourOcc
    cases hg : assocGet? s.tours v with
    | none => simp
    | some t => exact occ_le_one (tourOK_nodup hn.dt hn.wf hn.ap (hinv.tinv.tours v t hg)) n
  constructor
  · rw [List.nodup_iff_count]
    intro v; rw [hinv.forms n v]; exact hle v
  · intro v
    rw [← List.count_pos_iff, hinv.forms n v]
    unfold tourOcc
    cases hg : assocGet? s.tours v with
    | none => simp
    | some t =>
      simp only [Option.some.injEq, exists_eq_left']
      exact occ_pos_iff n

/-- the network hypotheses are decidable: the drivers evaluate `formHypsB` on every network of a run
    (STAT `c10.formhyps`) -/
theorem formHyps_sound (nw : Network) (h : formHypsB nw = true) : NetHyp nw := by
  unfold formHypsB at h
  simp only [Bool.and_eq_true] at h
  obtain ⟨h1, h2⟩ := h
  obtain ⟨hdt, hwf⟩ := tourHyps_sound nw h1
  refine ⟨hdt, hwf, ?_⟩
  unfold actPosB at h2
  simp only [Bool.and_eq_true, Bool.not_eq_true'] at h2
  obtain ⟨hall, hdef⟩ := h2
  have hall := List.all_eq_true.mp hall
  intro i hact
  by_cases hi : i < nw.nodes.size
  · have := hall i (by simp [Network.allIdx, hi])
    simp only [hact, Bool.not_true, Bool.false_or] at this
    exact this
  · have hdn : nw.node i = default := by unfold Network.node; simp [Array.getD, hi]
    rw [hdn, hdef] at hact; cases hact

end RSSched.C10Fit
