/-
Props/C06: solving terminates with an answer — the logic half.
* the lexicographic objective order is well-founded: no infinite sequence of accepted steps, for
  any neighbourhood (schedule search, transition search, cycle TSP);
* every 3-opt index enumeration is finite and in range for every cycle length (repaired, finding F5);
  the pinned range `0..cycle_length - 2` is not: for length 0/1 it panics with arithmetic checks
  and makes 2^64−2 / 2^64−1 outer iterations without;
* the binary searches of Tour never fault on valid tours (Props/C12).
What a model cannot exhibit — termination of rs_graph's network simplex, rayon scheduling, memory —
is exercised per run by the `pipe` scope in both builds under a wall-clock limit.
-/
import RSSched.Props.C08
namespace RSSched.C06

def m4 (o : Obj) : Nat × Nat × Nat × Nat := (o.unserved, o.violation, o.vehicles, o.costs)

abbrev Lex4 : (Nat × Nat × Nat × Nat) → (Nat × Nat × Nat × Nat) → Prop :=
  Prod.Lex (· < ·) (Prod.Lex (· < ·) (Prod.Lex (· < ·) (· < ·)))

theorem lex4_wf : WellFounded Lex4 :=
  (Prod.lex ⟨_, Nat.lt_wfRel.wf⟩ (Prod.lex ⟨_, Nat.lt_wfRel.wf⟩ (Prod.lex ⟨_, Nat.lt_wfRel.wf⟩ ⟨_, Nat.lt_wfRel.wf⟩))).wf

theorem lt_lex4 {a b : Obj} (h : Obj.lt a b) : Lex4 (m4 a) (m4 b) := by
  unfold Obj.lt at h
  unfold m4
  rcases h with h | ⟨h1, h⟩
  · exact Prod.Lex.left _ _ h
  · rw [h1]
    apply Prod.Lex.right
    rcases h with h | ⟨h2, h⟩
    · exact Prod.Lex.left _ _ h
    · rw [h2]
      apply Prod.Lex.right
      rcases h with h | ⟨h3, h⟩
      · exact Prod.Lex.left _ _ h
      · rw [h3]; exact Prod.Lex.right _ h

theorem C06_wf : WellFounded (fun a b : Obj => Obj.lt a b) :=
  Subrelation.wf (fun h => lt_lex4 h) (InvImage.wf m4 lex4_wf)

theorem C06_no_infinite_descent : ¬ ∃ f : Nat → Obj, ∀ k, Obj.lt (f (k + 1)) (f k) := by
  rintro ⟨f, hf⟩
  have : ∀ x : Obj, ∀ k, f k = x → False := by
    intro x
    induction x using C06_wf.induction with
    | _ x ih =>
      intro k hk
      exact ih (f (k + 1)) (hk ▸ hf k) (k + 1) rfl
  exact this (f 0) 0 rfl

/-- for a suitable fuel the loop of the model returns with the "ended by itself" flag set -/
theorem C06_search_terminates {σ} (obj : σ → Obj) (nbrs : σ → List σ) (s : σ) :
    ∃ fuel, (searchFuel obj nbrs fuel s).2 = true := by
  have : ∀ o : Obj, ∀ s : σ, obj s = o → ∃ fuel, (searchFuel obj nbrs fuel s).2 = true := by
    intro o
    induction o using C06_wf.induction with
    | _ o ih =>
      intro s hs
      cases h : improve obj nbrs s with
      | none => exact ⟨1, by simp [searchFuel, h]⟩
      | some s' =>
        have hlt := (C08.C08_step obj nbrs s s' h).2.1
        obtain ⟨fuel, hf⟩ := ih (obj s') (hs ▸ hlt) s' rfl
        exact ⟨fuel + 1, by simp [searchFuel, h, hf]⟩
  exact this (obj s) s rfl

theorem C06_nbhd_finite (n : Nat) : ∀ t ∈ threeOptTriples n, t.1 < t.2.1 ∧ t.2.1 < t.2.2 ∧ t.2.2 < n := by
  intro t ht
  unfold threeOptTriples at ht
  split at ht
  · cases ht
  · simp only [List.mem_flatMap, List.mem_range, List.mem_filter, List.mem_map, decide_eq_true_eq] at ht
    obtain ⟨i, _, j, ⟨hj, hij⟩, k, ⟨hk, hjk⟩, rfl⟩ := ht
    simp; omega

theorem C06_nbhd_short (n : Nat) (h : n < 3) : threeOptTriples n = [] := by
  simp [threeOptTriples, h]

/-- F5: the pinned range underflows for cycles of length 0 and 1 -/
theorem F5_pinned_range :
    pinnedOuterIterations true 1 = none ∧ pinnedOuterIterations true 0 = none ∧
    pinnedOuterIterations false 1 = some (2 ^ 64 - 1) ∧ pinnedOuterIterations false 0 = some (2 ^ 64 - 2) ∧
    pinnedOuterIterations true 3 = some 1 := by
  decide

example : (3, 4, 6) ∈ threeOptTriples 7 := by decide

end RSSched.C06
