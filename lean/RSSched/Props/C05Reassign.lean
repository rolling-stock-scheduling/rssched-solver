/-
Props/C05Reassign: the last pipeline stage, `reassign_end_depots_consistent_with_transitions`, for
the model and every schedule. Whenever it returns, every listed vehicle's tour is its old tour with
only the end depot replaced by the end-depot node of the depot where its rotation-cycle successor
starts; nothing else of the schedule changes except depot usage, costs and the cycle counters, and
every rotation cycle keeps its vehicles in order, so the reported cycles are the ones handed in (C16).
Hence (C05) in the result every vehicle ends in the depot in which its successor starts.
-/
import RSSched.Lemmas.ScheduleOps
import RSSched.Lemmas.TourOps
import RSSched.Props.C15Ops
namespace RSSched.C05

/-- what the stage computes for one vehicle -/
def EndSpec (nw : Network) (s : Schedule) (v : Veh) (nt : Tour) : Prop :=
  ∃ t vt tr next ntour sd, s.tourOf? v = some t ∧ s.typeOf? v = some vt ∧
    assocGet? s.transitions vt = some tr ∧ Transition.successorOf tr v = .ok next ∧
    s.tourOf? next = some ntour ∧ ntour.startDepot nw = .ok sd ∧
    t.replaceEndDepot nw (nw.endDepotNodeOf (nw.depotIdxOf sd)) = .ok nt

theorem endFold (nw : Network) (s : Schedule) : ∀ (L : List Veh) (acc acc' : Tours × DepotUsage × Nat),
    L.foldlM (endStep nw s) acc = .ok acc' →
    (∀ v ∈ L, ∃ nt, EndSpec nw s v nt ∧ assocGet? acc'.1 v = some nt) ∧
    (∀ w, w ∉ L → assocGet? acc'.1 w = assocGet? acc.1 w) := by
  intro L acc acc'
  refine C10L.foldlM_tours L acc acc' (fun c v c' _ hstep => ?_)
  obtain ⟨r, rfl⟩ := endStep_ok hstep
  exact ⟨r.nt, rfl, r.t, r.vt, r.tr, r.next, r.ntour, r.sd, r.tour_eq, r.type_eq, r.trans_eq, r.next_eq,
    r.ntour_eq, r.start_eq, r.replace_eq⟩

/-- a transition without its counters -/
def shape (tr : Transition) : List (List Veh) × List (Veh × Nat) × List Nat :=
  (tr.cycles.map (·.vehicles), tr.lookup, tr.empty)

theorem updateVehicle_shape {nw : Network} {tr tr' : Transition} {v : Veh} {nt : Tour} {upd old : Tours}
    (h : Transition.updateVehicle nw tr v nt upd old = .ok tr') : shape tr' = shape tr := by
  unfold Transition.updateVehicle at h
  obtain ⟨ot, _, h⟩ := bind_ok h
  obtain ⟨ci, _, h⟩ := bind_ok h
  obtain ⟨oc, hoc, h⟩ := bind_ok h
  have hoc := unwrapO_ok hoc
  dsimp only at h
  have key : ∃ nc : Int, tr' = { tr with
      cycles := tr.cycles.set ci { vehicles := oc.vehicles, counter := nc }
      totalViolation := (tr.totalViolation + posMax0 nc) - posMax0 oc.counter
      totalCounter := (tr.totalCounter + nc) - oc.counter } := by
    split at h
    · obtain ⟨nc, _, h⟩ := bind_ok h
      simp only [pure, Except.pure, Except.ok.injEq] at h
      exact ⟨nc, h.symm⟩
    · obtain ⟨⟨e, s⟩, _, h⟩ := bind_ok h
      obtain ⟨rem, _, h⟩ := bind_ok h
      obtain ⟨add, _, h⟩ := bind_ok h
      simp only [pure, Except.pure, bind, Except.bind, Except.ok.injEq] at h
      exact ⟨_, h.symm⟩
  obtain ⟨nc, rfl⟩ := key
  have hlt : ci < tr.cycles.length := (List.getElem?_eq_some_iff.mp hoc).1
  unfold shape
  simp only [Prod.mk.injEq, and_true]
  rw [List.map_set]
  apply List.ext_getElem?
  intro j
  rw [getElem?_set' _ _ _ _ (by simpa using hlt)]
  by_cases e : j = ci
  · subst e; simp [hoc]
  · simp [e]

/-- `update_transitions_and_violation_fast` with the old vehicle map as the new one: every changed
    vehicle is a dummy (skipped), goes through `update_vehicle`, or faults -/
theorem updateTransitionsFast_shape (nw : Network) (s : Schedule) (tours : Tours) :
    ∀ (L : List Veh) (updated : Tours) (trans trans' : List (Nat × Transition)) (viol viol' : Int),
    Schedule.updateTransitionsFast nw s s.vehicles tours L updated trans viol = .ok (trans', viol') →
    ∀ vt, (assocGet? trans' vt).map shape = (assocGet? trans vt).map shape
  | [], updated, trans, trans', viol, viol', h, vt => by
    cases h
    rfl
  | v :: rest, updated, trans, trans', viol, viol', h, vt => by
    rcases Schedule.updateTransitionsFast_cons_ok h with ⟨-, h⟩ | ⟨vt0, old, new, _, -, hold, hround, h⟩
    · exact updateTransitionsFast_shape nw s tours rest updated trans trans' viol viol' h vt
    · have hnew : shape new = shape old := by
        cases hround with
        | updateVehicle _ _ _ hnew => exact updateVehicle_shape hnew
        | addVehicleToOwnCycle hv hin => cases hv.symm.trans hin
        | removeVehicle hv hin => cases hv.symm.trans hin
      rw [updateTransitionsFast_shape nw s tours rest _ _ trans' _ viol' h vt, assocGet?_assocSet]
      by_cases e : vt = vt0
      · subst e
        simp [hold, hnew]
      · simp [e]

theorem replaceEndDepot_nodes {nw : Network} {t t' : Tour} {d : Nat} (h : t.replaceEndDepot nw d = .ok t') :
    t'.nodes = t.nodes.set (t.nodes.length - 1) d ∧ 2 ≤ t.nodes.length ∧ (nw.node d).isEndDepot = true := by
  obtain ⟨-, hd, hlen, _, _, _, _, -, -, -, -, rfl⟩ := Tour.replaceEndDepot_ok h
  exact ⟨rfl, hlen, hd⟩

theorem endDepot_after {nw : Network} {t t' : Tour} {d : Nat} (h : t.replaceEndDepot nw d = .ok t') :
    t'.endDepot nw = .ok d ∧ t'.startDepot nw = t.startDepot nw ∧
    t'.nodes.dropLast = t.nodes.dropLast := by
  obtain ⟨hn, hlen, hd⟩ := replaceEndDepot_nodes h
  have hl' : t'.nodes.length = t.nodes.length := by rw [hn]; simp
  refine ⟨?_, ?_, ?_⟩
  · refine Tour.endDepot_eq_ok.mpr ⟨?_, hd⟩
    rw [List.getLast?_eq_getElem?, hl', hn, List.getElem?_set_self (by omega)]
  · unfold Tour.startDepot Tour.firstNode
    have : t'.nodes[0]? = t.nodes[0]? := by
      rw [hn, List.getElem?_set_ne (by omega)]
    simp only [idxAt, this]
  · rw [hn, List.dropLast_eq_take, List.dropLast_eq_take, List.length_set, List.take_set_of_le (by omega)]

/-- **C05/C16 for the last stage**: tours of listed vehicles follow `EndSpec`, everything else that
    identifies the solution is untouched, rotation cycles keep their vehicles in order -/
theorem C05_reassign (nw : Network) (s s' : Schedule)
    (h : Schedule.reassignEndDepotsConsistent nw s = .ok s') :
    (∀ v ∈ s.vehiclesAll nw, ∃ nt, EndSpec nw s v nt ∧ assocGet? s'.tours v = some nt) ∧
    (∀ w, w ∉ s.vehiclesAll nw → assocGet? s'.tours w = assocGet? s.tours w) ∧
    s'.vehicles = s.vehicles ∧ s'.formations = s.formations ∧ s'.dummyTours = s.dummyTours ∧
    s'.idsByType = s.idsByType ∧ s'.dummyIds = s.dummyIds ∧ s'.unserved = s.unserved ∧
    (∀ vt, (assocGet? s'.transitions vt).map shape = (assocGet? s.transitions vt).map shape) := by
  obtain ⟨tours, _, _, _, _, hfold, htr, rfl⟩ := Schedule.reassignEndDepotsConsistent_ok h
  obtain ⟨f1, f2⟩ := endFold nw s _ _ _ hfold
  exact ⟨f1, f2, rfl, rfl, rfl, rfl, rfl, rfl, updateTransitionsFast_shape nw s tours _ _ _ _ _ _ htr⟩

/-- consequently every listed vehicle whose successor is listed too ends in the depot in which
    that successor starts — in the *result* (the successor's start depot is not moved by this stage).
    `hdep`: the end-depot node of a start depot's depot belongs to that depot (evaluated by the driver
    on every network, STAT `c05.depotnodes`). -/
theorem C05_end_is_successors_start (nw : Network) (s s' : Schedule)
    (hdep : ∀ n, (nw.node n).isStartDepot = true →
      nw.depotIdxOf (nw.endDepotNodeOf (nw.depotIdxOf n)) = nw.depotIdxOf n)
    (h : Schedule.reassignEndDepotsConsistent nw s = .ok s') (v : Veh) (hv : v ∈ s.vehiclesAll nw) :
    ∃ vt tr next tv tn e sd, s.typeOf? v = some vt ∧ assocGet? s.transitions vt = some tr ∧
      Transition.successorOf tr v = .ok next ∧
      assocGet? s'.tours v = some tv ∧ tv.endDepot nw = .ok e ∧
      (next ∈ s.vehiclesAll nw → assocGet? s'.tours next = some tn ∧ tn.startDepot nw = .ok sd ∧
        nw.depotIdxOf e = nw.depotIdxOf sd) := by
  obtain ⟨f1, f2, _⟩ := C05_reassign nw s s' h
  obtain ⟨nt, ⟨t, vt, tr, next, ntour, sd, h1, h2, h3, h4, h5, h6, h7⟩, hget⟩ := f1 v hv
  obtain ⟨he, _, _⟩ := endDepot_after h7
  by_cases hn : next ∈ s.vehiclesAll nw
  · obtain ⟨ntn, ⟨t2, _, _, _, _, _, g1, _, _, _, _, _, g7⟩, hgetn⟩ := f1 next hn
    obtain ⟨_, hs2, _⟩ := endDepot_after g7
    rw [h5] at g1; cases g1
    refine ⟨vt, tr, next, nt, ntn, _, sd, h2, h3, h4, hget, he, fun _ => ⟨hgetn, ?_, hdep sd (Tour.startDepot_eq_ok.mp h6).2⟩⟩
    rw [hs2]; exact h6
  · exact ⟨vt, tr, next, nt, nt, _, sd, h2, h3, h4, hget, he, fun hc => absurd hc hn⟩

theorem depotNodes_sound (nw : Network) (h : Spec.depotNodesB nw = true) :
    ∀ n, (nw.node n).isStartDepot = true →
      nw.depotIdxOf (nw.endDepotNodeOf (nw.depotIdxOf n)) = nw.depotIdxOf n := by
  unfold Spec.depotNodesB at h
  simp only [Bool.and_eq_true, beq_iff_eq] at h
  obtain ⟨h1, h2⟩ := h
  have hall := List.all_eq_true.mp h1
  intro n hn
  by_cases hi : n < nw.nodes.size
  · have := hall n (by simp [Network.allIdx, hi])
    simp only [Bool.or_eq_true, Bool.not_eq_eq_eq_not, Bool.not_true, beq_iff_eq] at this
    rcases this with h0 | h0
    · rw [hn] at h0; cases h0
    · exact h0
  · have hd : nw.node n = default := by unfold Network.node; simp [Array.getD, hi]
    unfold Network.depotIdxOf
    rw [hd]; exact h2

end RSSched.C05
