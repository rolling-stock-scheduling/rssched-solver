/-
Props/C11Swaps: every local-search swap is a finite composition of public schedule modifications
(C11, for the model, all schedules and all swap arguments). `Swap::apply` of each of the four swaps
returns, whenever it returns a candidate, a schedule that `runOps` reaches from the base by an
explicit list of public modifications (`Runs`); in it every reassignment has a receiver other than its
provider, provided nothing that has a tour in the base carries the next dummy id. Hence every predicate
kept by such runs (`RunClosed`) holds for every candidate of the neighbourhood and for every schedule
the search loop visits.
-/
import RSSched.Props.C02Limits
import RSSched.Props.C09Sched
import RSSched.Model.Solve
import RSSched.Props.C08
import RSSched.Props.C10Forms
namespace RSSched.C11S
open Schedule Swaps C02 Spec C10F

theorem runOps_append (nw : Network) : ∀ (a b : List SOp) (s : Schedule),
    runOps nw s (a ++ b) = (runOps nw s a).bind (fun s1 => runOps nw s1 b)
  | [], b, s => by simp [runOps]
  | op :: rest, b, s => by
    simp only [List.cons_append, runOps]
    split
    · exact runOps_append nw rest b _
    · rfl

theorem runOps_trans {nw : Network} {a b : List SOp} {s s1 s2 : Schedule}
    (h1 : runOps nw s a = some s1) (h2 : runOps nw s1 b = some s2) : runOps nw s (a ++ b) = some s2 := by
  rw [runOps_append, h1]; exact h2

theorem runOps_one {nw : Network} {s : Schedule} {op : SOp} {r : OpResult}
    (h : applyOp nw s op = .ok r) : runOps nw s [op] = some r.sched := by
  simp [runOps, h]

def Reaches (nw : Network) (s c : Schedule) : Prop := ∃ ops, runOps nw s ops = some c

theorem Reaches.refl (nw : Network) (s : Schedule) : Reaches nw s s := ⟨[], rfl⟩

theorem Reaches.trans {nw : Network} {a b c : Schedule} (h1 : Reaches nw a b) (h2 : Reaches nw b c) :
    Reaches nw a c := by
  obtain ⟨o1, e1⟩ := h1
  obtain ⟨o2, e2⟩ := h2
  exact ⟨o1 ++ o2, runOps_trans e1 e2⟩

/-- nothing that has a tour carries the id the next dummy will get -/
def NextDummyFree (s : Schedule) : Prop := ∀ p pt, s.tourOf? p = some pt → p ≠ Veh.dum s.counter

/-- `c` is reached from `s` by public modifications whose reassignments, given `P`, have distinct
    provider and receiver (`ArgsOKF`, Props/C10Forms) -/
def Runs (nw : Network) (P : Prop) (s c : Schedule) : Prop :=
  ∃ ops, runOps nw s ops = some c ∧ (P → ∀ op ∈ ops, ArgsOKF op)

theorem Runs.refl {nw : Network} {P : Prop} {s : Schedule} : Runs nw P s s := ⟨[], rfl, fun _ _ => nofun⟩

theorem Runs.trans {nw : Network} {P : Prop} {a b c : Schedule} (h1 : Runs nw P a b) (h2 : Runs nw P b c) :
    Runs nw P a c := by
  obtain ⟨o1, e1, a1⟩ := h1
  obtain ⟨o2, e2, a2⟩ := h2
  exact ⟨o1 ++ o2, runOps_trans e1 e2, fun hP => List.forall_mem_append.mpr ⟨a1 hP, a2 hP⟩⟩

/-- the argument condition is trivial unless `op` is a reassignment -/
theorem Runs.op {nw : Network} {P : Prop} {s : Schedule} {op : SOp} {r : OpResult}
    (h : applyOp nw s op = .ok r) (ha : P → ArgsOKF op := by exact fun _ => trivial) : Runs nw P s r.sched :=
  ⟨[op], runOps_one h, fun hP => List.forall_mem_singleton.mpr (ha hP)⟩

theorem Runs.mono {nw : Network} {P Q : Prop} {s c : Schedule} (h : Runs nw P s c) (hQ : Q → P) : Runs nw Q s c := by
  obtain ⟨ops, e, a⟩ := h
  exact ⟨ops, e, fun hq => a (hQ hq)⟩

theorem Runs.reaches {nw : Network} {P : Prop} {s c : Schedule} (h : Runs nw P s c) : Reaches nw s c := by
  obtain ⟨ops, e, _⟩ := h
  exact ⟨ops, e⟩

theorem applyOp_spawn {nw : Network} {s s' : Schedule} {vt : Nat} {path : List Nat} {v : Veh}
    (h : spawnVehicleForPath nw s vt path = .ok (s', v)) :
    applyOp nw s (.spawn vt path) = .ok { sched := s', retVeh := some v } := by
  rw [applyOp, h]; rfl

theorem applyOp_dummySpawn {nw : Network} {s s' : Schedule} {d : Veh} {vt : Nat} {v : Veh}
    (h : spawnToReplaceDummy nw s d vt = .ok (s', v)) :
    applyOp nw s (.dummySpawn d vt) = .ok { sched := s', retVeh := some v } := by
  rw [applyOp, h]; rfl

/-- `Path::new_from_single_node`: one activity is a path -/
theorem pathNew_single (nw : Network) (n : Nat) (hn : (nw.node n).isDepot = false) :
    Tour.pathNew nw [n] = .ok (some [n]) := by
  simp [Tour.pathNew, pairs, Tour.pathTrusted, hn, pure, Except.pure]

theorem applyOp_addSingle {nw : Network} {s s' : Schedule} {v : Veh} {n : Nat} {rm : Option (List Nat)}
    (hn : (nw.node n).isDepot = false) (h : addPathToVehicleTour nw s v [n] = .ok (s', rm)) :
    applyOp nw s (.addPath v [n]) = .ok { sched := s', retPath := rm } := by
  rw [applyOp, pathNew_single nw n hn]
  dsimp only
  rw [h]; rfl

theorem applyOp_rmSeg {nw : Network} {s s' : Schedule} {v : Veh} {a b : Nat}
    (h : removeSegment nw s v a b = .ok s') : applyOp nw s (.rmSeg v a b) = .ok { sched := s' } := by
  rw [applyOp, h]; rfl

theorem applyOp_fit {nw : Network} {s s' : Schedule} {p r : Veh} {a b : Nat}
    (h : fitReassign nw s p r a b = .ok s') : applyOp nw s (.fit p r a b) = .ok { sched := s' } := by
  rw [applyOp, h]; rfl

theorem applyOp_override {nw : Network} {s s' : Schedule} {p r : Veh} {a b : Nat} {d : Option Veh}
    (h : overrideReassign nw s p r a b = .ok (s', d)) :
    applyOp nw s (.override p r a b) = .ok { sched := s', retDummy := d } := by
  rw [applyOp, h]; rfl

theorem applyOp_improve {nw : Network} {s s' : Schedule} {vs : Option (List Veh)}
    (h : improveDepots nw s vs = .ok s') : applyOp nw s (.improve vs) = .ok { sched := s' } := by
  rw [applyOp, h]; rfl

theorem applyOp_recompute {nw : Network} {s s' : Schedule} {vts : Option (List Nat)}
    (h : recomputeTransitionsFor nw s vts = .ok s') : applyOp nw s (.recompute vts) = .ok { sched := s' } := by
  rw [applyOp, h]; rfl

theorem applyOp_endConsistent {nw : Network} {s s' : Schedule}
    (h : reassignEndDepotsConsistent nw s = .ok s') : applyOp nw s .endConsistent = .ok { sched := s' } := by
  rw [applyOp, h]; rfl

/-- `improve_depot_and_recompute_transitions` = `improve_depots(Some(changed))` then
    `recompute_transitions_for(Some(types))` -/
theorem improveDepotAndRecompute_runs {nw : Network} {P : Prop} {s c : Schedule} {changed : List Veh}
    (h : improveDepotAndRecompute nw s changed = .ok c) : Runs nw P s c := by
  unfold improveDepotAndRecompute at h
  obtain ⟨types, _, h⟩ := bind_ok h
  obtain ⟨s1, h1, h⟩ := bind_ok h
  exact (Runs.op (applyOp_improve h1)).trans (Runs.op (applyOp_recompute h))

theorem reach_improveDepotAndRecompute {nw : Network} {s c : Schedule} {changed : List Veh}
    (h : improveDepotAndRecompute nw s changed = .ok c) : Reaches nw s c :=
  (improveDepotAndRecompute_runs (P := True) h).reaches

/-- `AddTripForHitchHiking` = `add_path_to_vehicle_tour` of the one node, then improve and recompute -/
theorem hitchHiking_runs {nw : Network} {P : Prop} {s c : Schedule} {node : Nat} {v : Veh}
    (h : hitchHiking nw s node v = .ok c) : Runs nw P s c := by
  unfold hitchHiking at h
  -- `checked` is the code after the capacity check
  extract_lets checked at h
  have h : checked () = .ok c := by
    split at h
    · split at h
      · exact absurd h error_bind_ne
      · exact h
    · exact h
  dsimp only [checked] at h
  split at h
  · cases h
  rename_i hnd
  obtain ⟨⟨s1, conflict⟩, hadd, h⟩ := bind_ok h
  cases conflict with
  | some _ => cases h
  | none =>
    exact (Runs.op (applyOp_addSingle (Bool.eq_false_iff.mpr hnd) hadd)).trans
      (improveDepotAndRecompute_runs h)

theorem reach_hitchHiking {nw : Network} {s c : Schedule} {node : Nat} {v : Veh}
    (h : hitchHiking nw s node v = .ok c) : Reaches nw s c :=
  (hitchHiking_runs (P := True) h).reaches

/-- `RemoveSingleNode` = `remove_segment` of the one node -/
theorem removeSingleNode_runs {nw : Network} {P : Prop} {s c : Schedule} {node : Nat} {v : Veh}
    (h : removeSingleNode nw s node v = .ok c) : Runs nw P s c :=
  Runs.op (applyOp_rmSeg h)

theorem reach_removeSingleNode {nw : Network} {s c : Schedule} {node : Nat} {v : Veh}
    (h : removeSingleNode nw s node v = .ok c) : Reaches nw s c :=
  (removeSingleNode_runs (P := True) h).reaches

/-- `SpawnVehicleForMaintenance` = `remove_segment` of the slot from its last occupant if it is full,
    `add_path_to_vehicle_tour` of the slot, `spawn_vehicle_for_path` of the displaced path if any, then
    improve and recompute -/
theorem spawnForMaintenance_runs {nw : Network} {P : Prop} {s c : Schedule} {slot : Nat} {v : Veh}
    (h : spawnForMaintenance nw s slot v = .ok c) : Runs nw P s c := by
  unfold spawnForMaintenance at h
  obtain ⟨t, _, h⟩ := bind_ok h
  split at h
  · cases h
  obtain ⟨vt, _, h⟩ := bind_ok h
  -- `freed` is the code after a full slot has been freed, `finish` the last call
  extract_lets finish freed at h
  obtain ⟨s1, changed0, r1, h⟩ : ∃ s1 changed0, Runs nw P s s1 ∧ freed (s1, changed0) = .ok c := by
    split at h
    · obtain ⟨last, _, h⟩ := bind_ok h
      obtain ⟨sc, hrm, h⟩ := bind_ok h
      exact ⟨sc, _, Runs.op (applyOp_rmSeg hrm), h⟩
    · exact ⟨s, [], Runs.refl, h⟩
  dsimp only [freed] at h
  split at h
  · cases h
  rename_i hnd
  obtain ⟨⟨s2, conflict⟩, hadd, h⟩ := bind_ok h
  dsimp only at h
  obtain ⟨s3, changed, r3, h⟩ : ∃ s3 changed, Runs nw P s2 s3 ∧ improveDepotAndRecompute nw s3 changed = .ok c := by
    cases conflict with
    | some path =>
      obtain ⟨⟨sc, nv⟩, hsp, h⟩ := bind_ok h
      exact ⟨sc, _, Runs.op (applyOp_spawn hsp), h⟩
    | none => exact ⟨s2, _, Runs.refl, h⟩
  exact r1.trans ((Runs.op (applyOp_addSingle (Bool.eq_false_iff.mpr hnd) hadd)).trans
    (r3.trans (improveDepotAndRecompute_runs h)))

theorem reach_spawnForMaintenance {nw : Network} {s c : Schedule} {slot : Nat} {v : Veh}
    (h : spawnForMaintenance nw s slot v = .ok c) : Reaches nw s c :=
  (spawnForMaintenance_runs (P := True) h).reaches

theorem override_newDummy {nw : Network} {s s' : Schedule} {p r : Veh} {a b : Nat} {d : Veh}
    (h : overrideReassign nw s p r a b = .ok (s', some d)) :
    d = Veh.dum s.counter ∧ ∃ pt, s.tourOf? p = some pt := by
  obtain ⟨replaced, x, hd, -⟩ := overrideReassign_ok h
  refine ⟨?_, x.pt, x.prov_eq⟩
  cases replaced with
  | none => cases hd
  | some np =>
    dsimp only at hd
    rcases parkDummy_cases nw x.w.dummyTours x.w.dummyIds s.counter np with ⟨dt, _, e⟩ | e
    · rw [e] at hd
      cases hd
      rfl
    · rw [e] at hd
      cases hd

/-- `PathExchange` = `override_reassign`; if that parked a new dummy, `spawn_vehicle_to_replace_dummy_tour`
    (provider gone) or `fit_reassign` of the dummy back into the provider; then improve and recompute -/
theorem pathExchange_runs {nw : Network} {s c : Schedule} {a b : Nat} {p r : Veh}
    (h : pathExchange nw s a b p r = .ok c) : Runs nw (p ≠ r ∧ NextDummyFree s) s c := by
  unfold pathExchange at h
  obtain ⟨⟨s1, newDummy⟩, hov, h⟩ := bind_ok h
  dsimp only at h
  obtain ⟨s2, changed, r2, h⟩ : ∃ s2 changed, Runs nw (p ≠ r ∧ NextDummyFree s) s1 s2 ∧
      improveDepotAndRecompute nw s2 changed = .ok c := by
    split at h
    · exact ⟨s1, _, Runs.refl, h⟩
    · exact ⟨s1, _, Runs.refl, h⟩
    · obtain ⟨pvt, _, h⟩ := bind_ok h
      obtain ⟨⟨sc, nv⟩, hsp, h⟩ := bind_ok h
      exact ⟨sc, _, Runs.op (applyOp_dummySpawn hsp), h⟩
    · rename_i d _ _
      obtain ⟨t, _, h⟩ := bind_ok h
      obtain ⟨f, _, h⟩ := bind_ok h
      obtain ⟨l, _, h⟩ := bind_ok h
      obtain ⟨sc, hfit, h⟩ := bind_ok h
      obtain ⟨hd, pt, hpt⟩ := override_newDummy hov
      exact ⟨sc, _, Runs.op (applyOp_fit hfit) (fun hP => hd ▸ (hP.2 p pt hpt).symm), h⟩
  exact (Runs.op (applyOp_override hov) (fun hP => hP.1)).trans (r2.trans (improveDepotAndRecompute_runs h))

theorem reach_pathExchange {nw : Network} {s c : Schedule} {a b : Nat} {p r : Veh}
    (h : pathExchange nw s a b p r = .ok c) : Reaches nw s c :=
  (pathExchange_runs h).reaches

theorem okOnly_mem {r : R Schedule} {text : String} {info : SwapInfo} {cs : List Candidate} {c : Candidate}
    (h : okOnly r text info = .ok cs) (hc : c ∈ cs) : r = .ok c.sched := by
  unfold okOnly at h
  split at h
  · simp only [pure, Except.pure, Except.ok.injEq] at h
    subst h
    simp only [List.mem_singleton] at hc
    subst hc; rfl
  · simp only [pure, Except.pure, Except.ok.injEq] at h; subst h; cases hc
  · cases h

theorem neighbors_runs {nw : Network} {limit threshold : Option Nat} {s : Schedule} {last : SwapInfo}
    {cands : List Candidate} (h : neighborsOf nw limit threshold s last = .ok cands) :
    ∀ c ∈ cands, Runs nw (NextDummyFree s) s c.sched := by
  unfold neighborsOf at h
  dsimp only at h
  obtain ⟨c1, h1, h⟩ := bind_ok h
  obtain ⟨c2, h2, h⟩ := bind_ok h
  obtain ⟨c3, h3, h⟩ := bind_ok h
  obtain ⟨c4, h4, h⟩ := bind_ok h
  cases h
  intro c hc
  simp only [List.mem_append, List.mem_flatten] at hc
  rcases hc with ((hc | hc) | hc) | hc
  · obtain ⟨l1, ⟨l0, hl0, hl1⟩, hc⟩ := hc
    obtain ⟨m, _, e0⟩ := mapMR_mem h1 l0 hl0
    obtain ⟨v, _, e1⟩ := mapMR_mem e0 l1 hl1
    exact spawnForMaintenance_runs (okOnly_mem e1 hc)
  · obtain ⟨l2, ⟨l1, ⟨l0, hl0, hl1⟩, hl2⟩, hc⟩ := hc
    obtain ⟨p, _, e0⟩ := mapMR_mem h2 l0 hl0
    obtain ⟨segs, _, e0⟩ := bind_ok e0
    obtain ⟨⟨a, b⟩, _, e1⟩ := mapMR_mem e0 l1 hl1
    obtain ⟨r, hr, e2⟩ := mapMR_mem e1 l2 hl2
    -- the receivers tried are `receivers.filter (· != p)`
    have hne : p ≠ r := fun e => by simp [e] at hr
    exact (pathExchange_runs (okOnly_mem e2 hc)).mono (fun hs => ⟨hne, hs⟩)
  · obtain ⟨l1, ⟨l0, hl0, hl1⟩, hc⟩ := hc
    obtain ⟨v, _, e0⟩ := mapMR_mem h3 l0 hl0
    obtain ⟨vt, _, e0⟩ := bind_ok e0
    obtain ⟨n, _, e1⟩ := mapMR_mem e0 l1 hl1
    exact hitchHiking_runs (okOnly_mem e1 hc)
  · obtain ⟨l1, ⟨l0, hl0, hl1⟩, hc⟩ := hc
    obtain ⟨v, _, e0⟩ := mapMR_mem h4 l0 hl0
    obtain ⟨t, _, e0⟩ := bind_ok e0
    obtain ⟨n, _, e1⟩ := mapMR_mem e0 l1 hl1
    exact removeSingleNode_runs (okOnly_mem e1 hc)

/-- **C11 (composition)**: every candidate the neighbourhood enumerates, whatever the base schedule,
    the segment limits and the previous swap, is reached from the base by public modifications -/
theorem neighbors_reach {nw : Network} {limit threshold : Option Nat} {s : Schedule} {last : SwapInfo}
    {cands : List Candidate} (h : neighborsOf nw limit threshold s last = .ok cands) :
    ∀ c ∈ cands, Reaches nw s c.sched :=
  fun c hc => (neighbors_runs h c hc).reaches

theorem nbrs_runs {nw : Network} {limit threshold : Option Nat} {s c : Schedule}
    (hc : c ∈ Solve.nbrs nw limit threshold s) : Runs nw (NextDummyFree s) s c := by
  unfold Solve.nbrs at hc
  split at hc
  · rename_i cs hcs
    obtain ⟨cand, hm, rfl⟩ := List.mem_map.mp hc
    exact neighbors_runs hcs cand hm
  · cases hc

/-- `J` is kept by every run whose reassignments have distinct provider and receiver as far as the
    schedule it starts from is `NextDummyFree` -/
def RunClosed (nw : Network) (J : Schedule → Prop) : Prop :=
  ∀ s c, J s → Runs nw (NextDummyFree s) s c → J c

theorem search_closed {nw : Network} {J : Schedule → Prop} (hJ : RunClosed nw J) (limit threshold : Option Nat) :
    ∀ (fuel : Nat) (s : Schedule), J s →
    J (searchFuel Schedule.objective (Solve.nbrs nw limit threshold) fuel s).1
  | 0, _, h => h
  | fuel + 1, s, h => by
    unfold searchFuel
    split
    · exact h
    · rename_i s' hs'
      exact search_closed hJ limit threshold fuel s' (hJ s s' h (nbrs_runs (C08.C08_step _ _ s s' hs').1))

/-- **C11 / C08 (every visited schedule)**: whatever the fuel, the schedule the local search returns
    (hence every schedule it accepts on the way) is reached from the start schedule by public modifications -/
theorem search_reach (nw : Network) (limit threshold : Option Nat) :
    ∀ (fuel : Nat) (s : Schedule),
    Reaches nw s (searchFuel Schedule.objective (Solve.nbrs nw limit threshold) fuel s).1 :=
  fun fuel s => search_closed (fun _ _ hs hr => hs.trans hr.reaches) limit threshold fuel s (Reaches.refl nw s)

/-- **C11 (candidates valid), C02/C10/C01 at search level**: start the local search from any
    schedule the public modifications can build from the empty schedule (the start solution is one);
    then the search result for every fuel, and every candidate of its neighbourhood, has all formations
    within min(type limit, segment limit) / track counts, the listing invariant, dummy tours keyed by
    dummy ids, every real tour a connectable depot-to-depot chain, and cached violation = Σ per-type totals -/
theorem C11_candidates_valid (nw : Network) (hdt : C17.DepotTimes nw) (hw : NodesWF' nw)
    (limit threshold : Option Nat) (ops : List SOp) (start : Schedule)
    (hstart : runOps nw (Schedule.empty nw) ops = some start) (fuel : Nat) :
    let result := (searchFuel Schedule.objective (Solve.nbrs nw limit threshold) fuel start).1
    (FormLimits nw result.formations ∧ C10S.TInv nw result ∧ C09S.ViolExact result.transitions result.violation) ∧
    ∀ c ∈ Solve.nbrs nw limit threshold result,
      FormLimits nw c.formations ∧ C10S.TInv nw c ∧ C09S.ViolExact c.transitions c.violation := by
  intro result
  have hr : Reaches nw (Schedule.empty nw) result :=
    Reaches.trans ⟨ops, hstart⟩ (search_reach nw limit threshold fuel start)
  have all : ∀ c, Reaches nw (Schedule.empty nw) c →
      FormLimits nw c.formations ∧ C10S.TInv nw c ∧ C09S.ViolExact c.transitions c.violation := by
    intro c ⟨o, e⟩
    exact ⟨C02_limits_from_empty nw o c e, C10S.C10_tours_from_empty nw hdt hw o c e,
      C09S.C09_violation_from_empty nw o c e⟩
  exact ⟨all result hr, fun c hc => all c (hr.trans (nbrs_runs hc).reaches)⟩

end RSSched.C11S
