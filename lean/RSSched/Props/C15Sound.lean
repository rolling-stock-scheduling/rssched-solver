/-
Props/C15Sound: the executable monitor `transitionDiffs` (what the driver evaluates on the real
transitions) is sound for the invariant `Consistent` of Props/C15Ops: a dumped state on which it is
silent satisfies the hypothesis (and conclusion) of the per-operation theorems.
-/
import RSSched.Props.C15NewFast
import RSSched.Props.C05
namespace RSSched.C15
open Spec Cyclic

theorem mapM_opt_some {α β} [Inhabited β] (f : α → Option β) (l : List α) (r : List β)
    (h : l.mapM f = some r) :
    (∀ x ∈ l, f x = some ((f x).getD default)) ∧ r = l.map (fun x => (f x).getD default) := by
  induction l generalizing r with
  | nil => simp at h; simp [h]
  | cons a as ih =>
    rw [List.mapM_cons] at h
    obtain ⟨b, h1, h⟩ := Option.bind_eq_some_iff.mp h
    obtain ⟨r', h2, h3⟩ := Option.bind_eq_some_iff.mp h
    cases h3
    obtain ⟨ih1, ih2⟩ := ih r' h2
    exact ⟨List.forall_mem_cons.mpr ⟨by simp [h1], ih1⟩, by simp [h1, ih2]⟩

theorem pairs_map {α β} (f : α → β) : ∀ l : List α, pairs (l.map f) = (pairs l).map (fun p => (f p.1, f p.2))
  | [] => rfl
  | [_] => rfl
  | a :: b :: r => by
    simp only [List.map_cons, pairs, List.cons.injEq, true_and]
    have := pairs_map f (b :: r)
    simpa using this

theorem sum_pairs {α} (g : α → α → Int) : ∀ l : List α, sumInt ((pairs l).map (fun p => g p.1 p.2)) = pairSumI g l
  | [] => rfl
  | [_] => rfl
  | a :: b :: r => by
    simp only [pairs, List.map_cons, sumInt, List.foldr_cons, pairSumI_cons_cons]
    have := sum_pairs g (b :: r)
    simp only [sumInt] at this
    rw [this]

theorem sum_cyclicPairs {α} (g : α → α → Int) (l : List α) :
    sumInt ((cyclicPairs l).map (fun p => g p.1 p.2)) = cyc g l := by
  cases l with
  | nil => rfl
  | cons x xs =>
    unfold cyclicPairs cyc
    rw [List.map_append]
    have h1 := sum_pairs g (x :: xs)
    simp only [sumInt] at h1 ⊢
    rw [sumInt_append, h1]
    simp only [List.map_cons, List.map_nil, List.foldr_cons, List.foldr_nil, List.head?_cons]
    cases hl : (x :: xs).getLast? with
    | none => simp at hl
    | some y => simp [connI]

theorem cyclicPairs_map {α β} (f : α → β) (l : List α) :
    cyclicPairs (l.map f) = (cyclicPairs l).map (fun p => (f p.1, f p.2)) := by
  cases l with
  | nil => rfl
  | cons x xs =>
    simp only [List.map_cons, cyclicPairs]
    have := pairs_map f (x :: xs)
    simp only [List.map_cons] at this
    rw [this, List.map_append]
    congr 1
    simp only [List.map_cons, List.map_nil, List.cons.injEq, Prod.mk.injEq, and_true]
    have : (f x :: xs.map f).getLast? = ((x :: xs).getLast?).map f := by
      rw [← List.map_cons, List.getLast?_map]
    rw [this]
    cases (x :: xs).getLast? <;> simp

theorem mem_cyclicPairs {α} (l : List α) (x : α) (hx : x ∈ l) :
    (∃ y, (x, y) ∈ cyclicPairs l) ∧ (∃ z, (z, x) ∈ cyclicPairs l) := by
  constructor
  · rw [← C05.cyclicPairs_fst l] at hx
    obtain ⟨⟨a, b⟩, hp, rfl⟩ := List.mem_map.mp hx
    exact ⟨b, hp⟩
  · obtain ⟨⟨a, b⟩, hp, rfl⟩ := List.mem_map.mp ((C05.cyclicPairs_snd l).mem_iff.mpr hx)
    exact ⟨a, hp⟩

/-- the link term of the monitor -/
def linkRef (nw : Network) : Tour × Tour → Option Int
  | (a, b) =>
    match a.endDepot nw, b.startDepot nw with
    | .ok e, .ok s => some (Transition.depotDist nw e s)
    | _, _ => none

theorem cycleCounterRef_eq (nw : Network) (tours : Tours) (vs : List Veh) :
    cycleCounterRef nw tours vs = (vs.mapM (fun v => assocGet? tours v)).bind (fun ts =>
      ((cyclicPairs ts).mapM (linkRef nw)).bind (fun links =>
        some (sumInt (ts.map (fun t => t.maintenanceCounter nw)) + sumInt links))) := rfl

theorem linkRef_some {nw : Network} {a b : Tour} {y : Int} (h : linkRef nw (a, b) = some y) :
    ∃ e s, a.endDepot nw = .ok e ∧ b.startDepot nw = .ok s ∧ y = Transition.depotDist nw e s := by
  unfold linkRef at h
  cases he : a.endDepot nw with
  | error x => simp [he] at h
  | ok e =>
    cases hs : b.startDepot nw with
    | error x => simp [he, hs] at h
    | ok s => simp only [he, hs, Option.some.injEq] at h; exact ⟨e, s, rfl, rfl, h.symm⟩

/-- the monitor's recomputed counter, when defined, is `counterSpec` -/
theorem cycleCounterRef_some (nw : Network) (tours : Tours) (vs : List Veh) (x : Int)
    (h : cycleCounterRef nw tours vs = some x) :
    (∀ v ∈ vs, Toured nw (overlay [] tours) v) ∧ x = counterSpec nw (overlay [] tours) vs := by
  rw [cycleCounterRef_eq] at h
  obtain ⟨ts, hts, h⟩ := Option.bind_eq_some_iff.mp h
  obtain ⟨links, hl, hx⟩ := Option.bind_eq_some_iff.mp h
  cases hx
  obtain ⟨hget, hts'⟩ := mapM_opt_some _ vs ts hts
  obtain ⟨hlget, hlinks⟩ := mapM_opt_some _ (cyclicPairs ts) links hl
  let gv : Veh → Tour := fun v => (assocGet? tours v).getD default
  have hT : ∀ v ∈ vs, overlay [] tours v = some (gv v) := hget
  have htoured : ∀ v ∈ vs, Toured nw (overlay [] tours) v := by
    intro v hv
    have hmem : gv v ∈ ts := by rw [hts']; exact List.mem_map.mpr ⟨v, hv, rfl⟩
    obtain ⟨⟨y, hy⟩, ⟨z, hz⟩⟩ := mem_cyclicPairs ts (gv v) hmem
    obtain ⟨e, _, he, _, _⟩ := linkRef_some (hlget _ hy)
    obtain ⟨_, s, _, hs, _⟩ := linkRef_some (hlget _ hz)
    exact ⟨gv v, s, e, hT v hv, hs, he⟩
  refine ⟨htoured, ?_⟩
  rw [hlinks, hts']
  unfold counterSpec
  congr 1
  · rw [List.map_map]
    congr 1
    apply List.map_congr_left
    intro v hv
    simp only [Function.comp]; rw [mcOf_eq (hT v hv)]
  · rw [cyclicPairs_map, List.map_map]
    refine Eq.trans (sum_cyclicPairs (fun a b => (linkRef nw (gv a, gv b)).getD default) vs) ?_
    apply cyc_congr
    intro a b ha hb
    obtain ⟨ta, sa, ea, h1, h2, h3⟩ := htoured a ha
    obtain ⟨tb, sb, eb, h4, h5, h6⟩ := htoured b hb
    rw [hT a ha] at h1; cases h1
    rw [hT b hb] at h4; cases h4
    rw [linkOf_eq (hT a ha) (hT b hb) h3 h5]
    simp [linkRef, h3, h5]

theorem nodupB_sound {α} [BEq α] [LawfulBEq α] : ∀ l : List α, nodupB l = true → l.Nodup
  | [], _ => List.nodup_nil
  | x :: xs, h => by
    simp only [nodupB, Bool.and_eq_true, Bool.not_eq_eq_eq_not, Bool.not_true] at h
    refine List.nodup_cons.mpr ⟨?_, nodupB_sound xs h.2⟩
    intro hm
    have := List.contains_iff_mem.mpr hm
    rw [h.1] at this; cases this

theorem sameVehSet_sound (a b : List Veh) (h : sameVehSet a b = true) : ∀ v, v ∈ a ↔ v ∈ b := by
  unfold sameVehSet at h
  simp only [Bool.and_eq_true, List.all_eq_true, List.contains_iff_mem] at h
  exact fun v => ⟨h.1 v, h.2 v⟩

/-- a silent monitor means the declarative invariant holds, with exactly the listed vehicles -/
theorem C15_monitor_sound (nw : Network) (tours : Tours) (vehicles : List Veh) (tr : Transition)
    (h : transitionDiffs nw tours vehicles tr = []) :
    Consistent nw (overlay [] tours) tr ∧ ∀ v, v ∈ members tr ↔ v ∈ vehicles := by
  unfold transitionDiffs at h
  simp only [List.append_eq_nil_iff] at h
  obtain ⟨⟨⟨⟨⟨h1, h2⟩, h3⟩, h4⟩, h5⟩, h6⟩ := h
  have h1 := (ite_nil (by simp)).mp h1
  have h2 := (ite_nil (by simp)).mp h2
  have h3 := (ite_nil (by simp)).mp h3
  have h4 := (ite_nil (by simp)).mp h4
  have h5 := (ite_nil (by simp)).mp h5
  have h6 := (ite_nil (by simp)).mp h6
  simp only [Bool.and_eq_true] at h1 h3
  -- lookup: equal after sorting, so a permutation of the expected list
  have hperm : tr.lookup.Perm (C15N.lookupList tr.cycles) := by
    have e : Transition.sortLookup tr.lookup = Transition.sortLookup (C15N.lookupList tr.cycles) := by
      simpa [C15N.lookupList] using h2
    unfold Transition.sortLookup at e
    have p1 := List.mergeSort_perm tr.lookup (fun a b => !(Veh.lt b.1 a.1))
    rw [e] at p1
    exact p1.symm.trans (List.mergeSort_perm _ _)
  have hcounter : ∀ c ∈ tr.cycles, cycleCounterRef nw tours c.vehicles = some c.counter := by
    intro c hc
    obtain ⟨i, hlt, rfl⟩ := List.getElem_of_mem hc
    have := List.all_eq_true.mp h4 (tr.cycles[i], cycleCounterRef nw tours tr.cycles[i].vehicles) (by
      rw [List.mem_iff_getElem]
      exact ⟨i, by simp [hlt], by simp⟩)
    simpa using this
  refine ⟨C15N.consistent_of_partition (nodupB_sound _ h1.1) hperm (nodupB_sound _ h3.1.1) (fun i => ?_)
    (fun c hc => cycleCounterRef_some nw tours c.vehicles c.counter (hcounter c hc))
    (by simpa [sumViolations] using h5) (by simpa [sumCounters] using h6), sameVehSet_sound _ _ h1.2⟩
  have hA := List.all_eq_true.mp h3.1.2
  have hB := List.all_eq_true.mp h3.2
  constructor
  · intro hi
    have := hA i hi
    simp only [List.contains_iff_mem, List.mem_filter, List.mem_range, List.isEmpty_iff] at this
    refine ⟨tr.cycles[i], by simp [this.1], ?_⟩
    simpa [List.getD_eq_getElem?_getD, this.1] using this.2
  · rintro ⟨c, hc, hv⟩
    obtain ⟨hlt, hget⟩ := List.getElem?_eq_some_iff.mp hc
    have := hB i (by
      simp only [List.mem_filter, List.mem_range, List.isEmpty_iff]
      exact ⟨hlt, by simp [List.getD_eq_getElem?_getD, hlt, hget, hv]⟩)
    simpa using this

end RSSched.C15
