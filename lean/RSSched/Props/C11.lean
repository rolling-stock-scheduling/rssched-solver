/-
Props/C11: every local-search candidate is a valid schedule with truthful objective.

"Valid" is `scheduleValidDiffs = []` (Props/C10 states what that means), "truthful objective" is
`scheduleCacheDiffs = []`: proved here to mean that the cached figures the objective reads equal
their from-scratch values, hence two candidates are compared on true values.
That every candidate of the model's neighbourhood satisfies the invariant of Props/C10All is
`C11_candidates_all` there. On the real code both predicates are evaluated on every dumped candidate
of the neighbourhood along arbitrary (not only improving) walks; enumeration must not panic and must
leave the base unchanged.
-/
import RSSched.Model.Objective
import RSSched.Props.C10
namespace RSSched.C11
open Spec

/-- from-scratch objective of a schedule: nothing is read from a cache -/
def objectiveRef (nw : Network) (s : Schedule) : Obj :=
  let un := nw.allServiceNodes.map (fun n => Schedule.unservedAt nw n ((s.formationOf n).filterMap s.typeOf?))
  { unserved := sumNat (un.map (·.1)) + sumNat (un.map (·.2))
    violation := (sumInt (nw.typeIdxs.map (fun vt => sumInt ((s.transitionOf vt).cycles.map (fun c =>
      posMax0 ((cycleCounterRef nw s.tours c.vehicles).getD 0)))))).toNat
    vehicles := s.vehicles.length
    costs := sumNat (s.tours.map (fun p => p.2.costs)) + nw.numberOfServiceNodes * nw.cStaff }

/-- if the cache monitor is quiet, the objective the search reads is the from-scratch objective -/
theorem C11_objective_truthful (nw : Network) (s : Schedule) (h : scheduleCacheDiffs nw s = []) :
    s.objective = objectiveRef nw s := by
  unfold scheduleCacheDiffs at h
  simp only [List.append_eq_nil_iff] at h
  obtain ⟨⟨⟨_, h1⟩, h2⟩, h3⟩ := h
  have e1 := (ite_nil (by simp)).mp h1
  have e2 := (ite_nil (by simp)).mp h2
  have e3 := (ite_nil (by simp)).mp h3
  simp only [beq_iff_eq] at e1 e2 e3
  unfold Schedule.objective objectiveRef
  simp only [e1, e3]
  rw [e2]

/-- … and every tour's own caches are exact -/
theorem C11_tours_truthful (nw : Network) (s : Schedule) (h : scheduleCacheDiffs nw s = []) :
    ∀ v t, (v, t) ∈ s.tours ++ s.dummyTours → tourCachesExactB nw t = true := by
  unfold scheduleCacheDiffs at h
  simp only [List.append_eq_nil_iff] at h
  obtain ⟨⟨⟨h0, _⟩, _⟩, _⟩ := h
  intro v t hvt
  have := List.flatMap_eq_nil_iff.mp h0 (v, t) hvt
  simp only [List.map_eq_nil_iff] at this
  simp [tourCachesExactB, this]

theorem C11_compared_on_true_values (nw : Network) (a b : Schedule)
    (ha : scheduleCacheDiffs nw a = []) (hb : scheduleCacheDiffs nw b = []) :
    Obj.lt a.objective b.objective ↔ Obj.lt (objectiveRef nw a) (objectiveRef nw b) := by
  rw [C11_objective_truthful nw a ha, C11_objective_truthful nw b hb]

end RSSched.C11
