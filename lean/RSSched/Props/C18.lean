/-
Props/C18: the HTTP service answers each request with its own solution and isolates failures, for
the stateless model of Model/Server.lean and every finite interleaving of arrivals and completions:
each answered request got exactly `respond` of its own request, whatever else was in flight, failed
or panicked; a health probe is answered "Healthy" in every state. The theorem is the specification
the real server is compared against (scope `serve`); it would stop to hold as soon as the model
needed a shared mutable cell, which is the kind of change it guards against.
Real sockets, tokio scheduling, rayon's shared pool and a `panic = "abort"` profile are outside any
model: they are exercised by the concurrent client, not proved (level `other`).
-/
import RSSched.Model.Server
namespace RSSched.C18
open RSSched.Server

theorem step_answered {B O} (solve : B → Outcome O) (s : State B O) (e : Event B)
    (h : ∀ x ∈ s.answered, x.2.2 = respond solve x.2.1) :
    ∀ x ∈ (step solve s e).answered, x.2.2 = respond solve x.2.1 := by
  cases e with
  | arrive id r => exact h
  | complete id =>
    unfold step
    cases hf : s.inflight.find? (·.1 == id) with
    | none => simpa [hf] using h
    | some p =>
      obtain ⟨i, r⟩ := p
      intro x hx
      simp only [hf, List.mem_cons] at hx
      rcases hx with hx | hx
      · subst hx; rfl
      · exact h x hx

/-- **C18 (isolation)** -/
theorem C18_isolation {B O} (solve : B → Outcome O) (evs : List (Event B)) :
    ∀ x ∈ (run solve evs).answered, x.2.2 = respond solve x.2.1 := by
  unfold run
  suffices ∀ (s : State B O), (∀ x ∈ s.answered, x.2.2 = respond solve x.2.1) →
      ∀ x ∈ (evs.foldl (step solve) s).answered, x.2.2 = respond solve x.2.1 by
    exact this {} (by intro x hx; cases hx)
  induction evs with
  | nil => intro s h; simpa using h
  | cons e es ih => intro s h; exact ih _ (step_answered solve s e h)

theorem C18_health {B O} (solve : B → Outcome O) : respond solve (Req.health : Req B) = Resp.ok200 "Healthy" := rfl

/-- a failing request is answered by an error or a closed connection; that it changes no other
    answer is `C18_isolation` -/
theorem C18_failure_is_local {B O} (solve : B → Outcome O) (b : B) (h : ∀ o, solve b ≠ .solved o) :
    respond solve (Req.solve b) = Resp.clientError ∨ respond solve (Req.solve b) = Resp.closed := by
  unfold respond
  cases hs : solve b with
  | malformed => simp [hs]
  | invalid => simp [hs]
  | solved o => exact absurd hs (h o)

end RSSched.C18
