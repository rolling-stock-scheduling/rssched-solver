/-
Props/C04Objective: the objective value a schedule reports equals the value computed from nothing but
its tours, formations and cycle membership — for every schedule the model reaches by public
modifications, every candidate of the search and every stage of the pipeline with the modelled
transition optimiser.
-/
import RSSched.Props.C15Optimise
import RSSched.Props.C09TourCaches
namespace RSSched.C04O
open RSSched Spec C10Cyc C10F C15Opt C09C

/-- all invariants of Props/C10Cycles plus "every real tour has exact caches" -/
structure InvO (nw : Network) (s : Schedule) : Prop where
  base : InvC nw s
  tours : C09T.TInv nw s

theorem stepInv0_obj {nw : Network} (hn : NetHyp nw) (hovf : C10Lim.OvfNode nw) : C11A.StepInv0 nw (InvO nw) where
  step := fun s op r hinv hargs h =>
    ⟨(stepInv0_cycles hn hovf).step s op r hinv.base hargs h, C09T.C10_tours_step nw hn.dt hn.wf s op r hinv.tours h⟩
  fresh := fun s p pt hinv hpt => (stepInv0_cycles hn hovf).fresh s p pt hinv.base hpt
  empty := ⟨(stepInv0_cycles hn hovf).empty,
    ⟨C10L.empty_listInv nw, empty_dk nw, C10S.toursP_empty nw⟩⟩

/-- the costs computed from the node lists of the tours -/
def trueCosts (nw : Network) (s : Schedule) : Nat :=
  sumNat (s.tours.map (fun p => nw.costsOf p.2.nodes)) + nw.numberOfServiceNodes * nw.cStaff

/-- **C04 / C09 (reported objective = true value)**: under the invariants, on networks satisfying the
    decidable hypotheses of the cache theorems, each level of the objective is the from-scratch value:
    unserved passengers = Σ shortfalls of the formations, maintenance violation = Σ positive parts of
    the from-scratch cycle counters, costs = Σ from-scratch tour costs + staff term -/
theorem objective_true {nw : Network} (h9 : C09T.Net9 nw) {s : Schedule} (hinv : InvO nw s) :
    s.unserved = C09U.sumU nw s.typeOf? s.formations ∧
    s.violation = trueViolation nw s ∧
    s.costs = trueCosts nw s := by
  refine ⟨hinv.base.uexact, violation_true hinv.base, ?_⟩
  have hcost : s.costs = sumCost s.tours + staffTerm nw := hinv.base.cost
  rw [hcost]
  unfold trueCosts sumCost staffTerm
  congr 1
  refine congrArg sumNat (List.map_congr_left (fun p hp => ?_))
  have hkeys : (s.tours.map (·.1)).Nodup := hinv.tours.listing.tourKeys
  have hg : assocGet? s.tours p.1 = some p.2 := assocGet?_of_mem hkeys (by simpa using hp)
  exact ((hinv.tours.tours p.1 p.2 hg).caches h9).co

theorem optimise_invO {nw : Network} (hn : NetHyp nw) (hovf : C10Lim.OvfNode nw) (p : Pick) (fuel : Nat)
    {s : Schedule} (hs : InvO nw s) : InvO nw (Schedule.setNextDayTransitions s (optimise nw p fuel s)) :=
  ⟨optimise_invC hn hovf p fuel hs.base, ⟨hs.tours.listing, hs.tours.dummies, hs.tours.tours⟩⟩

/-- … at every stage of the pipeline with the modelled transition optimiser -/
theorem C04_pipeline_objective (nw : Network) (hn : NetHyp nw) (hovf : C10Lim.OvfNode nw)
    (o : Solve.Oracle) (p : Pick) (fuel : Nat) (ho : o.optimise = optimise nw p fuel) (tr : Solve.Trace)
    (h : Solve.solve nw o = .ok tr) :
    InvO nw tr.start ∧ InvO nw tr.afterSearch ∧ InvO nw tr.final := by
  refine C11A.solve_inv0 (stepInv0_obj hn hovf) o (fun s hs => ?_) tr h
  rw [ho]
  exact optimise_invO hn hovf p fuel hs

/-- the returned schedule reports its true objective -/
theorem C04_final_objective (nw : Network) (hn : NetHyp nw) (hovf : C10Lim.OvfNode nw) (h9 : C09T.Net9 nw)
    (o : Solve.Oracle) (p : Pick) (fuel : Nat) (ho : o.optimise = optimise nw p fuel) (tr : Solve.Trace)
    (h : Solve.solve nw o = .ok tr) :
    tr.final.unserved = C09U.sumU nw tr.final.typeOf? tr.final.formations ∧
    tr.final.violation = trueViolation nw tr.final ∧ tr.final.costs = trueCosts nw tr.final :=
  objective_true h9 (C04_pipeline_objective nw hn hovf o p fuel ho tr h).2.2

/-- … and so does every candidate the local search evaluates -/
theorem C11_candidates_objective (nw : Network) (hn : NetHyp nw) (hovf : C10Lim.OvfNode nw) (h9 : C09T.Net9 nw)
    {limit threshold : Option Nat} {s : Schedule} {last : SwapInfo} {cands : List Swaps.Candidate}
    (hinv : InvO nw s) (h : Swaps.neighborsOf nw limit threshold s last = .ok cands) :
    ∀ c ∈ cands, c.sched.unserved = C09U.sumU nw c.sched.typeOf? c.sched.formations ∧
      c.sched.violation = trueViolation nw c.sched ∧ c.sched.costs = trueCosts nw c.sched :=
  fun c hc => objective_true h9 (C11A.neighbors_invF (stepInv0_obj hn hovf) hinv h c hc)

/-- public modifications keep `InvO`, the invariants behind `objective_true`: it holds in every
    schedule they reach from one in which it holds, hence (`(stepInv0_obj hn hovf).empty`) from the
    empty one -/
theorem C09_objective_from_empty (nw : Network) (hn : NetHyp nw) (hovf : C10Lim.OvfNode nw) :
    ∀ (ops : List SOp) (s s' : Schedule), InvO nw s → (∀ op ∈ ops, ArgsOKF op) → C02.runOps nw s ops = some s' →
      InvO nw s' :=
  runOps_induct (stepInv0_obj hn hovf).step

end RSSched.C04O
