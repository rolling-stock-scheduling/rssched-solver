/-
Props/C10Cycles: the rotation-cycle clause of C10 (and the partition half of C05), for the model,
every history: for every vehicle type that has an entry in `s.transitions`, the stored transition is
consistent with the stored tours (`C15.Consistent`) and its cycles hold exactly the real vehicles of
that type — so every real vehicle of such a type belongs to exactly one rotation cycle of its type.
The per-operation theorems of Props/C15Ops (stated relative to the "updated tours first, then old
tours" overlay) are lifted through the loop of `update_transitions_and_violation_fast` and every
public modification.
-/
import RSSched.Props.C15NewFast
import RSSched.Props.C10Limits
namespace RSSched.C10Cyc
open RSSched Schedule Tour Spec C15 C02 C10T C10L C09C C10S C10F C10Fit C10Lim C15N

def TypeOK (nw : Network) (T : TourMap) (typeOf : Veh → Option Nat) (vt : Nat) (tr : Transition) : Prop :=
  Consistent nw T tr ∧ ∀ w, w ∈ members tr ↔ typeOf w = some vt

/-- **the rotation-cycle clause** -/
def CycInv (nw : Network) (s : Schedule) : Prop :=
  ∀ vt tr, assocGet? s.transitions vt = some tr →
    TypeOK nw (TM s.tours) (fun w => assocGet? s.vehicles w) vt tr

theorem consistent_congr {nw : Network} {T T' : TourMap} {tr : Transition} (hc : Consistent nw T tr)
    (hT : ∀ w ∈ members tr, T' w = T w) : Consistent nw T' tr := by
  have hmem : ∀ (i : Nat) (c : Cycle), tr.cycles[i]? = some c → ∀ w ∈ c.vehicles, w ∈ members tr := by
    intro i c hi w hw
    exact List.mem_flatMap.mpr ⟨c, List.mem_of_getElem? hi, hw⟩
  exact ⟨hc.cycNodup, fun i c hi w hw => toured_congr (hT w (hmem i c hi w hw)) (hc.toured i c hi w hw),
    hc.keys, hc.lookup, hc.emptyNodup, hc.empty,
    fun i c hi => by
      rw [hc.counter i c hi]
      exact (counterSpec_congr nw T T' c.vehicles (fun w hw => hT w (hmem i c hi w hw))).symm,
    hc.totV, hc.totC⟩

theorem overlay_set (updated old : Tours) (v : Veh) (t : Tour) (w : Veh) :
    overlay (assocSet updated v t) old w = overlay ((v, t) :: updated) old w := by
  rw [overlay_cons]
  unfold overlay
  rw [assocGet?_assocSet]
  by_cases e : w = v
  · subst e; simp
  · have e' : ¬ v = w := fun h => e h.symm
    simp [e, e']

/-- state of the loop of `update_transitions_and_violation_fast` after the vehicles `done` -/
structure LoopInv (nw : Network) (s : Schedule) (V' : List (Veh × Nat)) (T' : Tours) (done : List Veh)
    (updated : Tours) (trans : List (Nat × Transition)) : Prop where
  types : ∀ vt tr, assocGet? trans vt = some tr →
    Consistent nw (overlay updated s.tours) tr ∧
    ∀ w, w ∈ members tr ↔ (if w ∈ done then assocGet? V' w = some vt else assocGet? s.vehicles w = some vt)
  upd : ∀ w, w ∈ done → (assocGet? V' w).isSome = true → assocGet? updated w = assocGet? T' w ∧ (assocGet? T' w).isSome = true
  keys : ∀ w, (assocGet? updated w).isSome = true → w ∈ done

theorem members_ite_cons {new old : Transition} {done : List Veh} {v : Veh} {A B : Veh → Prop}
    (hm : ∀ w, w ∈ members old ↔ (if w ∈ done then A w else B w))
    (hne : ∀ w, w ≠ v → (w ∈ members new ↔ w ∈ members old))
    (hv : v ∈ members new ↔ A v) :
    ∀ w, w ∈ members new ↔ (if w ∈ v :: done then A w else B w) := by
  intro w
  by_cases ew : w = v
  · subst ew
    rw [if_pos (List.mem_cons_self ..)]
    exact hv
  · rw [hne w ew, hm w]
    by_cases hd : w ∈ done
    · rw [if_pos hd, if_pos (List.mem_cons_of_mem _ hd)]
    · rw [if_neg hd, if_neg (fun h => (List.mem_cons.mp h).elim ew hd)]

theorem loopInv_step {nw : Network} {s : Schedule} {V' : List (Veh × Nat)} {T' : Tours} {done : List Veh}
    {updated updated' : Tours} {trans : List (Nat × Transition)} {v : Veh} {vt : Nat} {old new : Transition}
    (hinv : LoopInv nw s V' T' done updated trans) (hvd : v ∉ done) (hold : assocGet? trans vt = some old)
    (hvt : ∀ vt2, vt2 ≠ vt → assocGet? V' v ≠ some vt2 ∧ assocGet? s.vehicles v ≠ some vt2)
    (hoff : ∀ w, w ≠ v → assocGet? updated' w = assocGet? updated w)
    (hc : Consistent nw (overlay updated' s.tours) new)
    (hne : ∀ w, w ≠ v → (w ∈ members new ↔ w ∈ members old))
    (hv : v ∈ members new ↔ assocGet? V' v = some vt)
    (hupd : (assocGet? V' v).isSome = true → assocGet? updated' v = assocGet? T' v ∧ (assocGet? T' v).isSome = true) :
    LoopInv nw s V' T' (v :: done) updated' (assocSet trans vt new) := by
  have hov : ∀ w, w ≠ v → overlay updated' s.tours w = overlay updated s.tours w := by
    intro w hw; unfold overlay; rw [hoff w hw]
  refine ⟨fun vt2 tr2 hg => ?_, fun w hw hV => ?_, fun w hw => ?_⟩
  · rw [assocGet?_assocSet] at hg
    by_cases e : vt2 = vt
    · simp only [e, ↓reduceIte, Option.some.injEq] at hg
      subst hg; subst e
      exact ⟨hc, members_ite_cons (hinv.types vt2 old hold).2 hne hv⟩
    · simp only [e, ↓reduceIte] at hg
      obtain ⟨hc2, hm⟩ := hinv.types vt2 tr2 hg
      obtain ⟨h1, h2⟩ := hvt vt2 e
      have hvnot : v ∉ members tr2 := by
        intro hmem
        have := (hm v).mp hmem
        rw [if_neg hvd] at this
        exact h2 this
      exact ⟨consistent_congr hc2 (fun w hw => hov w (fun e2 => hvnot (e2 ▸ hw))),
        members_ite_cons hm (fun _ _ => Iff.rfl) ⟨fun h => absurd h hvnot, fun h => absurd h h1⟩⟩
  · rcases List.mem_cons.mp hw with e | e
    · subst e; exact hupd hV
    · have hne : w ≠ v := fun e2 => hvd (e2 ▸ e)
      rw [hoff w hne]; exact hinv.upd w e hV
  · by_cases e : w = v
    · simp [e]
    · rw [hoff w e] at hw
      exact List.mem_cons_of_mem _ (hinv.keys w hw)

theorem typeIn_only {s : Schedule} {V' : List (Veh × Nat)} {v : Veh} {vt vt2 : Nat}
    (hsub : ∀ vt, assocGet? V' v = some vt → s.isVehicle v = true → assocGet? s.vehicles v = some vt)
    (hvt : typeIn V' s v = some vt) (hne : vt2 ≠ vt) :
    assocGet? V' v ≠ some vt2 ∧ assocGet? s.vehicles v ≠ some vt2 := by
  unfold typeIn at hvt
  cases hg : assocGet? V' v with
  | none =>
    rw [hg] at hvt
    exact ⟨nofun, fun e => hne (Option.some.inj (e.symm.trans hvt))⟩
  | some x =>
    rw [hg] at hvt
    obtain rfl := Option.some.inj hvt
    refine ⟨fun e => hne (Option.some.inj e).symm, fun e => hne ?_⟩
    have hx := hsub x hg (Option.isSome_of_eq_some e)
    exact Option.some.inj (e.symm.trans hx)

/-- one round of the loop of `update_transitions_and_violation_fast` -/
theorem utf_round {nw : Network} {s : Schedule} {V' : List (Veh × Nat)} {T' : Tours}
    (hsub : ∀ w vt, assocGet? V' w = some vt → s.isVehicle w = true → assocGet? s.vehicles w = some vt)
    (hdum : ∀ w, w.dummy = true → assocGet? V' w = none ∧ assocGet? s.vehicles w = none)
    {v : Veh} {rest done : List Veh} {updated : Tours} {trans : List (Nat × Transition)} {viol : Int}
    {res : List (Nat × Transition) × Int} (hinv : LoopInv nw s V' T' done updated trans) (hvd : v ∉ done)
    (h : updateTransitionsFast nw s V' T' (v :: rest) updated trans viol = .ok res) :
    ∃ updated' trans' viol', LoopInv nw s V' T' (v :: done) updated' trans' ∧
      updateTransitionsFast nw s V' T' rest updated' trans' viol' = .ok res := by
  rcases updateTransitionsFast_cons_ok h with ⟨hdm, h⟩ | ⟨vt, old, new, updated', hvt, hold, hround, h⟩
  · -- a dummy id: nothing happens
    obtain ⟨h1, h2⟩ := hdum v hdm
    refine ⟨updated, trans, viol, ⟨fun vt tr hg => ?_, fun w hw hV => ?_,
      fun w hw => List.mem_cons_of_mem _ (hinv.keys w hw)⟩, h⟩
    · obtain ⟨hc, hm⟩ := hinv.types vt tr hg
      refine ⟨hc, members_ite_cons hm (fun _ _ => Iff.rfl) ?_⟩
      rw [hm v, if_neg hvd, h1, h2]
    · rcases List.mem_cons.mp hw with e | e
      · rw [e, h1] at hV
        cases hV
      · exact hinv.upd w e hV
  · obtain ⟨hc, hm⟩ := hinv.types vt old hold
    have hfresh : assocGet? updated v = none :=
      Option.not_isSome_iff_eq_none.mp (fun hk => hvd (hinv.keys v hk))
    have hmv : v ∈ members old ↔ assocGet? s.vehicles v = some vt := by
      rw [hm v, if_neg hvd]
    have hty : ∀ vt2, vt2 ≠ vt → assocGet? V' v ≠ some vt2 ∧ assocGet? s.vehicles v ≠ some vt2 :=
      fun _ hne => typeIn_only (hsub v) hvt hne
    cases hround with
    | updateVehicle hisv hinNew hnt htr =>
      have hV'v : assocGet? V' v = some vt := (C09U.typeIn_of_some hinNew).symm.trans hvt
      obtain ⟨hc', hveh, _, _⟩ := update_consistent nw old new v _ updated s.tours hc hfresh htr
      exact ⟨_, _, _, loopInv_step hinv hvd hold hty (fun w hw => get_set_ne _ _ _ _ hw)
        (consistent_congr hc' (fun w _ => overlay_set updated s.tours v _ w))
        (fun w _ => by rw [members_of_cycles hveh])
        (by rw [members_of_cycles hveh, hmv, hsub v vt hV'v hisv, hV'v])
        (fun _ => ⟨(get_set_self _ _ _).trans hnt.symm, by simp [hnt]⟩), h⟩
    | addVehicleToOwnCycle hisv hinNew hnt htr =>
      have hV'v : assocGet? V' v = some vt := (C09U.typeIn_of_some hinNew).symm.trans hvt
      have hnotmem : v ∉ members old := fun hmem =>
        Bool.false_ne_true (hisv.symm.trans (Option.isSome_of_eq_some (hmv.mp hmem)))
      obtain ⟨hc', hmem'⟩ := addOwn_consistent nw old new v _ updated s.tours hc (not_member_lookup hc hnotmem) htr
      exact ⟨_, _, _, loopInv_step hinv hvd hold hty (fun w hw => get_set_ne _ _ _ _ hw)
        (consistent_congr hc' (fun w _ => overlay_set updated s.tours v _ w))
        (fun w hw => (hmem' w).trans (or_iff_left hw)) ⟨fun _ => hV'v, fun _ => (hmem' v).mpr (Or.inr rfl)⟩
        (fun _ => ⟨(get_set_self _ _ _).trans hnt.symm, by simp [hnt]⟩), h⟩
    | removeVehicle hisv hinNew htr =>
      have hV'v : assocGet? V' v = none := by simpa using hinNew
      obtain ⟨hc', hmem', _⟩ := remove_consistent nw old new v updated s.tours hc hfresh htr
      exact ⟨_, _, _, loopInv_step hinv hvd hold hty (fun _ _ => rfl) hc'
        (fun w hw => (hmem' w).trans (and_iff_left hw))
        ⟨fun hmem => absurd rfl ((hmem' v).mp hmem).2, fun e => by rw [hV'v] at e; cases e⟩
        (fun hV => by rw [hV'v] at hV; cases hV), h⟩

theorem utf_inv {nw : Network} {s : Schedule} {V' : List (Veh × Nat)} {T' : Tours}
    (hsub : ∀ w vt, assocGet? V' w = some vt → s.isVehicle w = true → assocGet? s.vehicles w = some vt)
    (hdum : ∀ w, w.dummy = true → assocGet? V' w = none ∧ assocGet? s.vehicles w = none) :
    ∀ (L : List Veh) (done : List Veh) (updated : Tours) (trans : List (Nat × Transition)) (viol : Int)
      (res : List (Nat × Transition) × Int), L.Nodup → (∀ v ∈ L, v ∉ done) →
      LoopInv nw s V' T' done updated trans →
      updateTransitionsFast nw s V' T' L updated trans viol = .ok res →
      ∃ updated', LoopInv nw s V' T' (L.reverse ++ done) updated' res.1
  | [], done, updated, trans, viol, res, _, _, hinv, h => by
    cases h
    exact ⟨updated, by simpa using hinv⟩
  | v :: rest, done, updated, trans, viol, res, hnd, hnew, hinv, h => by
    obtain ⟨hvrest, hrestnd⟩ := List.nodup_cons.mp hnd
    obtain ⟨updated', trans', viol', hinv', hrec⟩ := utf_round hsub hdum hinv (hnew v List.mem_cons_self) h
    have hnew' : ∀ w ∈ rest, w ∉ v :: done := by
      intro w hw hm
      rcases List.mem_cons.mp hm with e | e
      · exact hvrest (e ▸ hw)
      · exact hnew w (List.mem_cons_of_mem _ hw) e
    rw [List.reverse_cons, List.append_assoc]
    exact utf_inv hsub hdum rest (v :: done) updated' trans' viol' res hrestnd hnew' hinv' hrec

theorem overlay_empty (T : Tours) : overlay [] T = TM T := by
  funext w
  simp [overlay, assocGet?_nil]

theorem utf_cyc {nw : Network} {s : Schedule} {V' : List (Veh × Nat)} {T' : Tours} {L : List Veh}
    {res : List (Nat × Transition) × Int} (hcyc : CycInv nw s)
    (hsub : ∀ w vt, assocGet? V' w = some vt → s.isVehicle w = true → assocGet? s.vehicles w = some vt)
    (hdum : ∀ w, w.dummy = true → assocGet? V' w = none ∧ assocGet? s.vehicles w = none)
    (hnd : L.Nodup)
    (hframeV : ∀ w, w ∉ L → assocGet? V' w = assocGet? s.vehicles w)
    (hframeT : ∀ w, w ∉ L → assocGet? T' w = assocGet? s.tours w)
    (h : updateTransitionsFast nw s V' T' L [] s.transitions s.violation = .ok res) :
    ∀ vt tr, assocGet? res.1 vt = some tr → TypeOK nw (TM T') (fun w => assocGet? V' w) vt tr := by
  have h0 : LoopInv nw s V' T' [] [] s.transitions := by
    refine ⟨fun vt tr hg => ?_, fun w hw => (by cases hw), fun w hw => (by simp [assocGet?_nil] at hw)⟩
    obtain ⟨hc, hm⟩ := hcyc vt tr hg
    refine ⟨by rw [overlay_empty]; exact hc, fun w => ?_⟩
    rw [hm w]; simp
  obtain ⟨updated', hfin⟩ := utf_inv hsub hdum L [] [] s.transitions s.violation res hnd (fun _ _ h => by cases h) h0 h
  intro vt tr hg
  obtain ⟨hc, hm⟩ := hfin.types vt tr hg
  have hmem : ∀ w, w ∈ members tr ↔ assocGet? V' w = some vt := by
    intro w
    rw [hm w]
    by_cases hw : w ∈ L
    · rw [if_pos (by simp [hw])]
    · rw [if_neg (by simp [hw]), hframeV w hw]
  refine ⟨consistent_congr hc (fun w hw => ?_), hmem⟩
  unfold overlay TM
  by_cases hwL : w ∈ L
  · have hV := (hmem w).mp hw
    obtain ⟨e1, e2⟩ := hfin.upd w (by simp [hwL]) (by simp [hV])
    obtain ⟨t, ht⟩ := Option.isSome_iff_exists.mp e2
    rw [e1, ht]
  · have : assocGet? updated' w = none :=
      Option.not_isSome_iff_eq_none.mp (fun hk => hwL (by simpa using hfin.keys w hk))
    rw [this]
    exact hframeT w hwL

theorem recompute_cyc {nw : Network} {s : Schedule} {T' : Tours} (hi : ListInv s)
    (htoured : ∀ v t, assocGet? T' v = some t → (assocGet? s.vehicles v).isSome = true → Toured nw (TM T') v)
    (hsame : ∀ v, (assocGet? T' v).isSome = (assocGet? s.tours v).isSome) :
    ∀ (vts : List Nat) (trans : List (Nat × Transition)) (viol : Int) (res : List (Nat × Transition) × Int),
      (∀ vt tr, assocGet? trans vt = some tr → vt ∉ vts →
        TypeOK nw (TM T') (fun w => assocGet? s.vehicles w) vt tr) →
      recomputeTransitions nw s.idsByType T' vts trans viol = .ok res →
      ∀ vt tr, assocGet? res.1 vt = some tr → TypeOK nw (TM T') (fun w => assocGet? s.vehicles w) vt tr
  | [], trans, viol, res, hinv, h => by
    simp only [recomputeTransitions, pure, Except.pure, Except.ok.injEq] at h
    subst h
    intro vt tr hg
    exact hinv vt tr hg (by simp)
  | vt0 :: rest, trans, viol, res, hinv, h => by
    unfold recomputeTransitions at h
    obtain ⟨ids, hids, h⟩ := bind_ok h
    obtain ⟨new, hnew, h⟩ := bind_ok h
    obtain ⟨old, hold, h⟩ := bind_ok h
    have hids := unwrapO_ok hids
    have hidsnd : ids.Nodup := hi.idsNodup vt0 ids hids
    have htyped : ∀ v ∈ ids, assocGet? s.vehicles v = some vt0 := hi.typed vt0 ids hids
    have htr : ∀ v ∈ ids, Toured nw (TM T') v := by
      intro v hv
      have hV := htyped v hv
      have h1 := typed_hasTour hi hV
      rw [← hsame v] at h1
      obtain ⟨t, ht⟩ := Option.isSome_iff_exists.mp h1
      exact htoured v t ht (Option.isSome_of_eq_some hV)
    obtain ⟨hc, hm, _⟩ := newFast_consistent nw ids T' new hidsnd htr hnew
    have hnewOK : TypeOK nw (TM T') (fun w => assocGet? s.vehicles w) vt0 new := by
      refine ⟨hc, fun w => ?_⟩
      rw [hm w]
      constructor
      · exact htyped w
      · intro hw
        obtain ⟨l, hl, hwl⟩ := hi.complete w vt0 hw
        obtain rfl : ids = l := Option.some.inj (hids.symm.trans hl)
        exact hwl
    refine recompute_cyc hi htoured hsame rest _ _ res (fun vt tr hg hnot => ?_) h
    rw [assocGet?_assocSet] at hg
    by_cases e : vt = vt0
    · simp only [e, ↓reduceIte, Option.some.injEq] at hg
      subst hg; subst e; exact hnewOK
    · simp only [e, ↓reduceIte] at hg
      exact hinv vt tr hg (by simp [e, hnot])

theorem dummyId_not_in_vehicles {s : Schedule} (hi : ListInv s) {w : Veh} (hw : w.dummy = true) :
    assocGet? s.vehicles w = none := by
  cases hg : assocGet? s.vehicles w with
  | none => rfl
  | some x =>
    have := (hi.fresh w (typed_hasTour hi hg)).1
    rw [hw] at this
    cases this

theorem cycInv_of_utf {nw : Network} {s s' : Schedule} {L : List Veh} {viol : Int}
    (hi : ListInv s) (hi' : ListInv s') (hcyc : CycInv nw s) (hnd : L.Nodup)
    (hV : ∀ w, w ∉ L → assocGet? s'.vehicles w = assocGet? s.vehicles w)
    (hT : ∀ w, w ∉ L → assocGet? s'.tours w = assocGet? s.tours w)
    (htype : ∀ w vt, w ∈ L → assocGet? s'.vehicles w = some vt → s.isVehicle w = true →
      assocGet? s.vehicles w = some vt)
    (h : updateTransitionsFast nw s s'.vehicles s'.tours L [] s.transitions s.violation
      = .ok (s'.transitions, viol)) : CycInv nw s' := by
  refine utf_cyc hcyc (fun w vt hw hv => ?_)
    (fun w hw => ⟨dummyId_not_in_vehicles hi' hw, dummyId_not_in_vehicles hi hw⟩) hnd hV hT h
  by_cases hL : w ∈ L
  · exact htype w vt hL hw hv
  · rw [← hV w hL]; exact hw

theorem cycInv_of_utf_one {nw : Network} {s s' : Schedule} {v : Veh} {viol : Int}
    (hi : ListInv s) (hi' : ListInv s') (hcyc : CycInv nw s)
    (hV : ∀ w, w ≠ v → assocGet? s'.vehicles w = assocGet? s.vehicles w)
    (hT : ∀ w, w ≠ v → assocGet? s'.tours w = assocGet? s.tours w)
    (htype : ∀ vt, assocGet? s'.vehicles v = some vt → s.isVehicle v = true → assocGet? s.vehicles v = some vt)
    (h : updateTransitionsFast nw s s'.vehicles s'.tours [v] [] s.transitions s.violation
      = .ok (s'.transitions, viol)) : CycInv nw s' := by
  refine cycInv_of_utf hi hi' hcyc (by simp) (fun w hw => hV w (List.ne_of_not_mem_cons hw))
    (fun w hw => hT w (List.ne_of_not_mem_cons hw)) (fun w vt hw hV' hv => ?_) h
  obtain rfl := List.eq_of_mem_singleton hw
  exact htype vt hV' hv

theorem spawn_cyc {nw : Network} {s s' : Schedule} {vt : Nat} {path : List Nat} {v : Veh}
    (hi : ListInv s) (hi' : ListInv s') (hcyc : CycInv nw s)
    (h : spawnVehicleForPath nw s vt path = .ok (s', v)) : CycInv nw s' := by
  obtain ⟨r, rfl⟩ := spawnVehicleForPath_ok h
  refine cycInv_of_utf_one hi hi' hcyc (fun w hw => get_set_ne _ _ _ _ hw) (fun w hw => get_set_ne _ _ _ _ hw)
    (fun _ _ hv => ?_) r.trans_eq
  rw [r.veh_eq] at hv
  cases (C09U.fresh_not_vehicle hi).symm.trans hv

theorem delete_cyc {nw : Network} {s s' : Schedule} {v : Veh}
    (hi : ListInv s) (hi' : ListInv s') (hcyc : CycInv nw s)
    (h : replaceVehicleByDummy nw s v = .ok s') : CycInv nw s' := by
  obtain ⟨r, rfl⟩ := replaceVehicleByDummy_ok h
  refine cycInv_of_utf_one hi hi' hcyc (fun w hw => get_erase_ne _ _ _ hw) (fun w hw => get_erase_ne _ _ _ hw)
    (fun vt' hV' _ => ?_) r.trans_eq
  rw [get_erase_self] at hV'
  cases hV'

theorem addPath_cyc {nw : Network} {s s' : Schedule} {v : Veh} {path : List Nat} {rm : Option (List Nat)}
    (hi : ListInv s) (hi' : ListInv s') (hcyc : CycInv nw s)
    (h : addPathToVehicleTour nw s v path = .ok (s', rm)) : CycInv nw s' := by
  obtain ⟨r, rfl⟩ := addPathToVehicleTour_ok h
  exact cycInv_of_utf_one hi hi' hcyc (fun _ _ => rfl) (fun w hw => get_set_ne _ _ _ _ hw) (fun _ hV' _ => hV')
    r.trans_eq

theorem rmSeg_cyc {nw : Network} {s s' : Schedule} {v : Veh} {a b : Nat}
    (hi : ListInv s) (hi' : ListInv s') (hcyc : CycInv nw s)
    (h : removeSegment nw s v a b = .ok s') : CycInv nw s' := by
  obtain ⟨_, shrunk, _, -, -, -, h⟩ := removeSegment_ok h
  cases shrunk with
  | none => exact delete_cyc hi hi' hcyc h
  | some newTour =>
    obtain ⟨r, rfl⟩ := h
    exact cycInv_of_utf_one hi hi' hcyc (fun _ _ => rfl) (utc_tours_ne r.tours_eq) (fun _ hV' _ => hV') r.trans_eq

theorem reassign_cyc {nw : Network} {s s' : Schedule} {w' : Work} {p r : Veh} {newProv : Option Tour}
    {newRecv : Tour} {moved : List Nat} {viol : Int}
    (hi : ListInv s) (hi' : ListInv s') (hcyc : CycInv nw s) (hne : p ≠ r)
    (hut : updateTours nw s (Work.ofSchedule s) (some p) newProv r newRecv moved = .ok w')
    (hV : s'.vehicles = w'.vehicles) (hT : s'.tours = w'.tours)
    (h : updateTransitionsFast nw s w'.vehicles w'.tours [p, r] [] s.transitions s.violation
      = .ok (s'.transitions, viol)) : CycInv nw s' := by
  have hpr : ∀ w, w ∉ [p, r] → w ≠ p ∧ w ≠ r := fun w hw =>
    ⟨List.ne_of_not_mem_cons hw, List.ne_of_not_mem_cons (List.not_mem_of_not_mem_cons hw)⟩
  rw [← hV, ← hT] at h
  refine cycInv_of_utf hi hi' hcyc (by simp [hne]) (fun w hw => ?_) (fun w hw => ?_) (fun w vt _ hV' _ => ?_) h
  · rw [hV]; exact updateTours_vehicles_ne hut w (hpr w hw).1
  · rw [hT]; exact updateTours_tours_ne hut w (hpr w hw).1 (hpr w hw).2
  · rw [hV] at hV'; exact updateTours_typed hut hV'

theorem fit_cyc {nw : Network} {s s' : Schedule} {p r : Veh} {a b : Nat}
    (hi : ListInv s) (hi' : ListInv s') (hcyc : CycInv nw s) (hne : p ≠ r)
    (h : fitReassign nw s p r a b = .ok s') : CycInv nw s' := by
  obtain ⟨x, rfl⟩ := fitReassign_ok h
  exact reassign_cyc hi hi' hcyc hne x.update_eq rfl rfl x.trans_eq

theorem override_cyc {nw : Network} {s s' : Schedule} {p r : Veh} {a b : Nat} {d : Option Veh}
    (hi : ListInv s) (hi' : ListInv s') (hcyc : CycInv nw s) (hne : p ≠ r)
    (h : overrideReassign nw s p r a b = .ok (s', d)) : CycInv nw s' := by
  obtain ⟨_, x, -, rfl⟩ := overrideReassign_ok h
  exact reassign_cyc hi hi' hcyc hne x.update_eq rfl rfl x.trans_eq

theorem dummySpawn_cyc {nw : Network} {s s' : Schedule} {d : Veh} {vt : Nat} {v : Veh}
    (hi : ListInv s) (hi' : ListInv s') (hcyc : CycInv nw s)
    (h : spawnToReplaceDummy nw s d vt = .ok (s', v)) : CycInv nw s' := by
  obtain ⟨_, s1, -, -, hdel, hspawn⟩ := spawnToReplaceDummy_ok h
  refine spawn_cyc (deleteDummy_listInv hi hdel) hi' ?_ hspawn
  obtain ⟨-, -, rfl⟩ := deleteDummy_ok hdel
  exact hcyc

theorem fold_frame (F : Acc → Veh → R Acc)
    (hF : ∀ acc v acc', F acc v = .ok acc' → ∃ nt, acc'.1 = assocSet acc.1 v nt)
    (L : List Veh) (acc acc' : Acc) (h : L.foldlM F acc = .ok acc') (w : Veh) (hw : w ∉ L) :
    assocGet? acc'.1 w = assocGet? acc.1 w := by
  refine (foldlM_tours (Spec := fun _ _ => True) L acc acc' (fun c v c' _ hs => ?_) h).2 w hw
  obtain ⟨nt, e⟩ := hF c v c' hs
  exact ⟨nt, e, trivial⟩

theorem improve_tours_frame {nw : Network} {s s' : Schedule} {vs : Option (List Veh)}
    (h : improveDepots nw s vs = .ok s') :
    ∀ w, w ∉ vs.getD (s.vehiclesAll nw) → assocGet? s'.tours w = assocGet? s.tours w := by
  obtain ⟨_, _, _, _, _, _, -, hfold, -, rfl⟩ := improveDepots_ok h
  refine fold_frame (improveStep nw s) (fun acc v acc' hs => ?_) _ _ _ hfold
  obtain ⟨r, rfl⟩ := improveStep_ok hs
  exact ⟨r.nt, rfl⟩

theorem tourOK_toured {nw : Network} {T : Tours} {v : Veh} {t : Tour} (hg : assocGet? T v = some t)
    (ht : TourOK nw t) : Toured nw (TM T) v := by
  obtain ⟨sd, mid, ed, hl, hsd, hed, hmid, _⟩ := ht.shape
  refine ⟨t, sd, ed, hg, ?_, ?_⟩
  · exact startDepot_eq_ok.mpr ⟨by rw [hl]; rfl, hsd⟩
  · exact endDepot_eq_ok.mpr ⟨by rw [hl, ← List.cons_append, List.getLast?_concat], hed⟩

theorem type_inRange {nw : Network} {s : Schedule} (hi : ListInv s) (hK : C10Lim.IdsIn nw s) {v : Veh} {vt : Nat}
    (hv : assocGet? s.vehicles v = some vt) : vt ∈ nw.typeIdxs :=
  List.mem_range.mpr (C10Lim.type_lt hi hK hv)

/-- types outside the network's range have no vehicles: their (empty) transition fits any tour map -/
theorem typeOK_outside {nw : Network} {s : Schedule} {T' : Tours} (hi : ListInv s) (hK : C10Lim.IdsIn nw s)
    {vt : Nat} {tr : Transition} (hvt : vt ∉ nw.typeIdxs)
    (h : TypeOK nw (TM s.tours) (fun w => assocGet? s.vehicles w) vt tr) :
    TypeOK nw (TM T') (fun w => assocGet? s.vehicles w) vt tr := by
  obtain ⟨hc, hm⟩ := h
  exact ⟨consistent_congr hc (fun w hw => absurd (type_inRange hi hK ((hm w).mp hw)) hvt), hm⟩

theorem recomputeAll_cyc {nw : Network} {s s' : Schedule} {viol : Int}
    (hi : ListInv s) (hi' : ListInv s') (hK : C10Lim.IdsIn nw s) (hcyc : CycInv nw s)
    (ho' : ToursOK nw s'.tours) (hV : s'.vehicles = s.vehicles)
    (h : recomputeTransitions nw s.idsByType s'.tours nw.typeIdxs s.transitions s.violation
      = .ok (s'.transitions, viol)) : CycInv nw s' := by
  have hsame : ∀ v, (assocGet? s'.tours v).isSome = (assocGet? s.tours v).isSome := by
    intro v
    have h1 : (assocGet? s'.vehicles v).isSome = (assocGet? s'.tours v).isSome := hi'.same v
    have h2 : (assocGet? s.vehicles v).isSome = (assocGet? s.tours v).isSome := hi.same v
    rw [← h1, ← h2, hV]
  unfold CycInv
  rw [hV]
  exact recompute_cyc hi (fun v t hg _ => tourOK_toured hg (ho' v t hg)) hsame nw.typeIdxs s.transitions
    s.violation _ (fun vt tr hg hnot => typeOK_outside hi hK hnot (hcyc vt tr hg)) h

theorem improve_cyc {nw : Network} {s s' : Schedule} {vs : Option (List Veh)}
    (hi : ListInv s) (hi' : ListInv s') (hK : C10Lim.IdsIn nw s) (ho' : ToursOK nw s'.tours) (hcyc : CycInv nw s)
    (h : improveDepots nw s vs = .ok s') : CycInv nw s' := by
  have hfr := improve_tours_frame h
  obtain ⟨_, _, _, _, _, _, -, -, hcall, rfl⟩ := improveDepots_ok h
  cases vs with
  | none => exact recomputeAll_cyc hi hi' hK hcyc ho' rfl hcall
  | some ids =>
    exact cycInv_of_utf hi hi' hcyc (C09A.improve_nodup h) (fun _ _ => rfl) hfr (fun _ _ _ hV' _ => hV') hcall

theorem endGreedy_cyc {nw : Network} {s s' : Schedule}
    (hi : ListInv s) (hi' : ListInv s') (hK : C10Lim.IdsIn nw s) (ho' : ToursOK nw s'.tours) (hcyc : CycInv nw s)
    (h : reassignEndDepotsGreedily nw s = .ok s') : CycInv nw s' := by
  obtain ⟨_, _, _, _, _, -, hcall, rfl⟩ := reassignEndDepotsGreedily_ok h
  exact recomputeAll_cyc hi hi' hK hcyc ho' rfl hcall

theorem endConsistent_cyc {nw : Network} {s s' : Schedule}
    (hi : ListInv s) (hi' : ListInv s') (hcyc : CycInv nw s)
    (h : reassignEndDepotsConsistent nw s = .ok s') : CycInv nw s' := by
  have hfr := (C05.C05_reassign nw s s' h).2.1
  obtain ⟨_, _, _, _, _, -, hcall, rfl⟩ := reassignEndDepotsConsistent_ok h
  exact cycInv_of_utf hi hi' hcyc (vehiclesAll_nodup hi) (fun _ _ => rfl) hfr (fun _ _ _ hV' _ => hV') hcall

theorem recomputeOp_cyc {nw : Network} {s s' : Schedule} {vts : Option (List Nat)}
    (hi : ListInv s) (ho : ToursOK nw s.tours) (hcyc : CycInv nw s)
    (h : recomputeTransitionsFor nw s vts = .ok s') : CycInv nw s' := by
  obtain ⟨_, _, hcall, rfl⟩ := recomputeTransitionsFor_ok h
  exact recompute_cyc hi (fun v t hg _ => tourOK_toured hg (ho v t hg)) (fun _ => rfl) _ _ _ _
    (fun vt tr hg _ => hcyc vt tr hg) hcall

theorem cycInv_setTransitions {nw : Network} {s : Schedule} {trans : List (Nat × Transition)} (hcyc : CycInv nw s)
    (h : ∀ vt new, assocGet? trans vt = some new → ∃ tr, assocGet? s.transitions vt = some tr ∧
      (Consistent nw (overlay [] s.tours) tr →
        Consistent nw (overlay [] s.tours) new ∧ ∀ w, w ∈ members new ↔ w ∈ members tr)) :
    CycInv nw (Schedule.setNextDayTransitions s trans) := by
  intro vt new hg
  obtain ⟨tr, htr, hnew⟩ := h vt new hg
  obtain ⟨hc, hm⟩ := hcyc vt tr htr
  rw [← overlay_empty] at hc
  obtain ⟨hc1, hm1⟩ := hnew hc
  rw [overlay_empty] at hc1
  exact ⟨hc1, fun w => (hm1 w).trans (hm w)⟩

theorem setTrans_cyc {nw : Network} {s : Schedule} {vt : Nat} {v : Veh} {ci : Nat} {tr moved : Transition}
    (hcyc : CycInv nw s) (htr : assocGet? s.transitions vt = some tr)
    (hmv : Transition.moveVehicle nw false tr v ci s.tours = .ok moved) :
    CycInv nw (Schedule.setNextDayTransitions s (assocSet s.transitions vt moved)) := by
  refine cycInv_setTransitions hcyc (fun vt' new hg => ?_)
  rw [assocGet?_assocSet] at hg
  split at hg
  · rename_i e
    cases hg
    rw [e]
    refine ⟨tr, htr, fun hc => ?_⟩
    obtain ⟨hc1, hm1, _⟩ := move_consistent nw tr moved v ci s.tours hc hmv
    exact ⟨hc1, hm1⟩
  · exact ⟨new, hg, fun hc => ⟨hc, fun _ => Iff.rfl⟩⟩

theorem empty_cyc (nw : Network) : CycInv nw (Schedule.empty nw) := by
  intro vt tr hg
  have hm := assocGet?_mem hg
  simp only [Schedule.empty, List.mem_map, Prod.mk.injEq] at hm
  obtain ⟨a, _, _, rfl⟩ := hm
  refine ⟨⟨?_, ?_, ?_, ?_, ?_, ?_, ?_, rfl, rfl⟩, fun w => ?_⟩
  · intro i c hi; simp at hi
  · intro i c hi; simp at hi
  · simp
  · intro w i; simp [assocGet?_nil]
  · simp
  · intro i; simp
  · intro i c hi; simp at hi
  · simp [members, Schedule.empty, assocGet?_nil]

/-- **C10 (rotation cycles), one step**: every public modification keeps, for every vehicle type, a
    transition that is consistent with the tours and holds exactly the vehicles of the type -/
theorem C10_cycles_step (nw : Network) (hn : NetHyp nw) (s : Schedule) (op : SOp) (r : OpResult)
    (hinv : C10Fit.Inv nw s) (hK : C10Lim.IdsIn nw s) (hcyc : CycInv nw s) (hargs : ArgsOKF op)
    (h : applyOp nw s op = .ok r) : CycInv nw r.sched := by
  have hinv' := C10_forms_step nw hn s op r hinv hargs h
  obtain ⟨⟨hi, _, ho⟩, _, _⟩ := hinv
  obtain ⟨⟨hi', _, ho'⟩, _, _⟩ := hinv'
  exact applyOp_cases (motive := fun op s' => ArgsOKF op → ListInv s' → ToursOK nw s'.tours → CycInv nw s')
    (fun _ _ _ => empty_cyc nw)
    (fun _ _ _ _ hs _ hi' _ => spawn_cyc hi hi' hcyc hs)
    (fun _ _ _ _ hs _ hi' _ => dummySpawn_cyc hi hi' hcyc hs)
    (fun _ _ hs _ hi' _ => delete_cyc hi hi' hcyc hs)
    (fun _ _ _ _ _ _ hs _ hi' _ => addPath_cyc hi hi' hcyc hs)
    (fun _ _ _ _ hs _ hi' _ => rmSeg_cyc hi hi' hcyc hs)
    (fun _ _ _ _ _ hs hne hi' _ => fit_cyc hi hi' hcyc hne hs)
    (fun _ _ _ _ _ _ hs hne hi' _ => override_cyc hi hi' hcyc hne hs)
    (fun _ _ hs _ hi' ho' => improve_cyc hi hi' hK ho' hcyc hs)
    (fun _ hs _ hi' ho' => endGreedy_cyc hi hi' hK ho' hcyc hs)
    (fun _ _ hs _ _ _ => recomputeOp_cyc hi ho hcyc hs)
    (fun _ hs _ hi' _ => endConsistent_cyc hi hi' hcyc hs)
    (fun _ _ _ _ _ htr hmv _ _ _ => setTrans_cyc hcyc htr hmv)
    h hargs hi' ho'

/-- everything of Props/C10Limits plus the rotation cycles -/
structure InvC (nw : Network) (s : Schedule) : Prop where
  base : C10Lim.InvL nw s
  cycles : CycInv nw s

namespace InvC
variable {nw : Network} {s : Schedule} (h : InvC nw s)
include h

theorem invF : C11A.InvF nw s := h.base.base.all.fu.invF

theorem fit : C10Fit.Inv nw s := h.invF.inv

theorem uexact : C09U.UExact nw s := h.base.base.all.fu.uexact

theorem cost : C09C.CostEq nw s := h.base.base.all.cost

theorem viol : C09S.ViolExact s.transitions s.violation := h.base.base.all.viol

end InvC

theorem stepInv0_cycles {nw : Network} (hn : NetHyp nw) (hovf : C10Lim.OvfNode nw) : C11A.StepInv0 nw (InvC nw) where
  step := fun s op r hinv hargs h =>
    ⟨(C10Lim.stepInv_limits hn hovf).step s op r hinv.base hargs h,
     C10_cycles_step nw hn s op r hinv.fit hinv.base.keys hinv.cycles hargs h⟩
  fresh := fun _ _ _ hinv hpt => C11A.tour_ne_fresh hinv.invF hpt
  empty := ⟨(C10Lim.stepInv_limits hn hovf).empty, empty_cyc nw⟩

theorem C10_cycles_reachable (nw : Network) (hn : NetHyp nw) (hovf : C10Lim.OvfNode nw) (ops : List SOp)
    (s s' : Schedule) (hinv : InvC nw s) (hargs : ∀ op ∈ ops, ArgsOKF op) (h : runOps nw s ops = some s') :
    InvC nw s' :=
  runOps_induct (stepInv0_cycles hn hovf).step ops s s' hinv hargs h

/-- **C10 (rotation cycles), every history**: in every schedule the model reaches from the empty
    schedule by public modifications (provider ≠ receiver in reassignments) — including moves of
    vehicles between rotation cycles — and for every vehicle type: the stored transition satisfies the
    bookkeeping invariant of C15 with respect to the stored tours (duplicate-free cycles, exact lookup
    and list of empty cycles, exact maintenance counters and totals), and a vehicle is in one of its
    cycles exactly if it is a real vehicle of that type. Together with all other clauses (`InvC`). -/
theorem C10_cycles_from_empty (nw : Network) (hn : NetHyp nw) (hovf : C10Lim.OvfNode nw) (ops : List SOp)
    (s' : Schedule) (hargs : ∀ op ∈ ops, ArgsOKF op) (h : runOps nw (Schedule.empty nw) ops = some s') :
    InvC nw s' :=
  C10_cycles_reachable nw hn hovf ops _ s' (stepInv0_cycles hn hovf).empty hargs h

/-- for every type that has an entry in `s.transitions`: every real vehicle of the type belongs to
    exactly one of its rotation cycles, and no other vehicle to any -/
theorem one_cycle {nw : Network} {s : Schedule} (hcyc : CycInv nw s) {vt : Nat} {tr : Transition}
    (htr : assocGet? s.transitions vt = some tr) (v : Veh) :
    (assocGet? s.vehicles v = some vt ↔ ∃ i, assocGet? tr.lookup v = some i) ∧
    ∀ (i j : Nat) (ci cj : Cycle), tr.cycles[i]? = some ci → tr.cycles[j]? = some cj →
      v ∈ ci.vehicles → v ∈ cj.vehicles → i = j := by
  obtain ⟨hc, hm⟩ := hcyc vt tr htr
  refine ⟨by rw [← hm v]; exact mem_members_iff hc v, fun i j ci cj hi hj hvi hvj => ?_⟩
  have h1 := (hc.lookup v i).mpr ⟨ci, hi, hvi⟩
  have h2 := (hc.lookup v j).mpr ⟨cj, hj, hvj⟩
  rw [h1] at h2
  exact Option.some.inj h2

/-- every candidate the search evaluates satisfies every clause of C10, rotation cycles included -/
theorem C11_candidates_cycles (nw : Network) (hn : NetHyp nw) (hovf : C10Lim.OvfNode nw)
    {limit threshold : Option Nat} {s : Schedule} {last : SwapInfo} {cands : List Swaps.Candidate}
    (hinv : InvC nw s) (h : Swaps.neighborsOf nw limit threshold s last = .ok cands) :
    ∀ c ∈ cands, InvC nw c.sched :=
  C11A.neighbors_invF (stepInv0_cycles hn hovf) hinv h

/-- **C05 / C10 at pipeline level**: if the transition optimiser — an oracle of the modelled pipeline —
    returns, for a schedule that satisfies all invariants, transitions (distinct type keys) that are
    consistent with the schedule's tours over the same vehicles, then the start schedule, the
    local-search result and the returned schedule satisfy all invariants, rotation cycles included:
    in the returned schedule every real vehicle is in exactly one rotation cycle of its type -/
theorem C05_pipeline_cycles (nw : Network) (hn : NetHyp nw) (hovf : C10Lim.OvfNode nw) (o : Solve.Oracle)
    (hopt : ∀ s, ((o.optimise s).map (·.1)).Nodup)
    (hoptC : ∀ s, InvC nw s → CycInv nw (Schedule.setNextDayTransitions s (o.optimise s)))
    (tr : Solve.Trace) (h : Solve.solve nw o = .ok tr) :
    InvC nw tr.start ∧ InvC nw tr.afterSearch ∧ InvC nw tr.final :=
  C11A.solve_inv0 (stepInv0_cycles hn hovf) o
    (fun s hs => ⟨(C10Lim.stepInv_limits hn hovf).setT s _ (hopt s) hs.base, hoptC s hs⟩) tr h

end RSSched.C10Cyc
