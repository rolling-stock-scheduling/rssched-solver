/-
Props/C10Dummy: the dummy-tour clause of C10 at tour level: `Tour::new_dummy`, `remove` and `insert_path`
give valid dummy tours (`DummyOK`). A dummy tour is a non-empty list of activities in which every node
ends no later than every later node starts (`PW`, the pairwise form of the time chain the position
searches rely on); hence its nodes are pairwise distinct. Real tours satisfy the same order (from
connectability), so the paths that reassignments move do too; such a slice of a tour has depots only at
its ends (`InnerAct`). That every dummy tour of every reachable schedule is valid is
`C10Fit.C10_forms_from_empty`.
-/
import RSSched.Props.C10Forms
namespace RSSched.C10D
open Tour Spec C10T C10F

def Before (nw : Network) (a b : Nat) : Prop :=
  ExtTime.le (nw.node a).endT (nw.node b).startT = true

def PW (nw : Network) (l : List Nat) : Prop := l.Pairwise (Before nw)

theorem before_trans {nw : Network} (hw : NodesWF' nw) {a b c : Nat} (h1 : Before nw a b) (h2 : Before nw b c) :
    Before nw a c :=
  ExtTime.le_trans' (ExtTime.le_trans' h1 (hw b)) h2

theorem pw_sublist {nw : Network} {l l' : List Nat} (h : l'.Sublist l) (hp : PW nw l) : PW nw l' :=
  List.Pairwise.sublist h hp

theorem pw_of_chain (nw : Network) (hd : C17.DepotTimes nw) (hw : NodesWF' nw) :
    ∀ (l : List Nat), chainB nw l = true → PW nw l
  | [], _ => List.Pairwise.nil
  | [a], _ => List.pairwise_singleton _ _
  | a :: b :: rest, h => by
    rw [chainB_cons2] at h
    simp only [Bool.and_eq_true] at h
    have ih := pw_of_chain nw hd hw (b :: rest) h.2
    have hab : Before nw a b := C17.reach_end_le_start nw hd a b h.1
    refine List.Pairwise.cons ?_ ih
    intro x hx
    rcases List.mem_cons.mp hx with e | hm
    · subst e; exact hab
    · have hbx : Before nw b x := List.rel_of_pairwise_cons ih hm
      exact before_trans hw hab hbx

theorem timeChain_of_pw (nw : Network) : ∀ (l : List Nat), PW nw l → TimeChain nw l
  | [], _ => by intro i hi; simp at hi
  | [a], _ => by intro i hi; simp at hi
  | a :: b :: rest, h => by
    have ih := timeChain_of_pw nw (b :: rest) (List.Pairwise.of_cons h)
    intro i hi
    cases i with
    | zero =>
      simp only [List.getD_cons_zero, List.getD_cons_succ]
      exact List.rel_of_pairwise_cons h (by simp)
    | succ j =>
      have := ih j (by simpa using hi)
      simpa using this

theorem not_before_self {nw : Network} (hap : C12.ActPos nw) {a : Nat} (ha : (nw.node a).isDepot = false) :
    ¬ Before nw a a := by
  intro h
  have hlt := hap a (isActivity_of_not_depot ha)
  unfold Before at h
  revert h hlt
  cases (nw.node a).startT <;> cases (nw.node a).endT <;> simp [ExtTime.le, ExtTime.lt] <;> omega

theorem nodup_of_pw {nw : Network} (hap : C12.ActPos nw) : ∀ {l : List Nat},
    (∀ x ∈ l, (nw.node x).isDepot = false) → PW nw l → l.Nodup
  | [], _, _ => List.nodup_nil
  | a :: rest, hact, h => by
    refine List.nodup_cons.mpr ⟨?_, nodup_of_pw hap (fun x hx => hact x (by simp [hx])) (List.Pairwise.of_cons h)⟩
    intro hm
    exact not_before_self hap (hact a (by simp)) (List.rel_of_pairwise_cons h hm)

/-- a real tour of valid shape has pairwise distinct nodes -/
theorem tourOK_nodup {nw : Network} (hd : C17.DepotTimes nw) (hw : NodesWF' nw) (hap : C12.ActPos nw)
    {t : Tour} (ht : TourOK nw t) : t.nodes.Nodup := by
  obtain ⟨sd, mid, ed, hl, hsd, hed, _, hmidnd⟩ := ht.shape
  have hpw := pw_of_chain nw hd hw t.nodes ht.chain
  rw [hl] at hpw ⊢
  have hmidpw : PW nw mid := by
    apply pw_sublist _ hpw
    exact (List.sublist_append_left mid [ed]).cons sd
  have hmidnodup := nodup_of_pw hap hmidnd hmidpw
  have hsdD : (nw.node sd).isDepot = true := by simp [Node.isDepot, hsd]
  have hedD : (nw.node ed).isDepot = true := by simp [Node.isDepot, hed]
  have hne : sd ≠ ed := by
    intro e; subst e
    unfold Node.isStartDepot at hsd; unfold Node.isEndDepot at hed
    simp only [beq_iff_eq] at hsd hed
    rw [hsd] at hed; cases hed
  refine List.nodup_cons.mpr ⟨?_, ?_⟩
  · intro hm
    rcases List.mem_append.mp hm with h1 | h1
    · have := hmidnd sd h1; rw [hsdD] at this; cases this
    · simp at h1; exact hne h1
  · rw [List.nodup_append]
    refine ⟨hmidnodup, by simp, ?_⟩
    intro a ha b hb
    simp at hb; subst hb
    intro e; subst e
    have := hmidnd a ha; rw [hedD] at this; cases this

structure DummyOK (nw : Network) (t : Tour) : Prop where
  dummy : t.isDummy = true
  ne : t.nodes ≠ []
  acts : ∀ x ∈ t.nodes, (nw.node x).isDepot = false
  pw : PW nw t.nodes

theorem tourOK_pw {nw : Network} (hd : C17.DepotTimes nw) (hw : NodesWF' nw) {t : Tour} (ht : TourOK nw t) :
    PW nw t.nodes := pw_of_chain nw hd hw t.nodes ht.chain

theorem take_drop_sublist (l : List Nat) (s e : Nat) (h : s ≤ e) : (l.take s ++ l.drop e).Sublist l := by
  have hsub := (List.sublist_append_left (l.take s) ((l.drop s).take (e - s))).append_right (l.drop e)
  rwa [← take_drop_split l s e h] at hsub

theorem slice_sublist (l : List Nat) (s c : Nat) : ((l.drop s).take c).Sublist l :=
  (List.take_sublist _ _).trans (List.drop_sublist _ _)

theorem newDummy_dummyOK {nw : Network} {path : List Nat} {dt : Tour} (hp : PW nw path)
    (h : Tour.newDummy nw path = .ok dt) : DummyOK nw dt := by
  unfold Tour.newDummy at h
  dsimp only at h
  split at h
  · cases h
  · rename_i hne
    simp only [pure, Except.pure, Except.ok.injEq] at h
    subst h
    refine ⟨rfl, ?_, ?_, ?_⟩
    · show path.filter _ ≠ []
      intro e; rw [e] at hne; simp at hne
    · intro x hx
      have := (List.mem_filter.mp hx).2
      unfold Node.isService at this
      simp only [beq_iff_eq] at this
      simp [Node.isDepot, Node.isStartDepot, Node.isEndDepot, this]
    · exact pw_sublist (List.filter_sublist) hp

theorem remove_dummyOK {nw : Network} {t t' : Tour} {a b : Nat} {path : List Nat} (ht : DummyOK nw t)
    (h : Tour.remove nw t a b = .ok (some t', path)) : DummyOK nw t' := by
  obtain ⟨s, e, -, -, hchk, -, -, hn, hdum, hne⟩ := remove_nodes h
  have hsub : (t.nodes.take s ++ t.nodes.drop (e + 1)).Sublist t.nodes :=
    take_drop_sublist _ _ _ (Nat.le_succ_of_le (C09.checkSeqRemovable_le hchk))
  refine ⟨hdum.trans ht.dummy, hne, ?_, ?_⟩
  · rw [hn]
    exact fun x hx => ht.acts x (hsub.subset hx)
  · rw [hn]
    exact pw_sublist hsub ht.pw

theorem removed_pw {nw : Network} {t : Tour} {a b : Nat} {ot : Option Tour} {path : List Nat}
    (hp : PW nw t.nodes) (h : Tour.remove nw t a b = .ok (ot, path)) : PW nw path := by
  obtain ⟨s, e, _, _, hsp, _, _⟩ := remove_split h
  apply pw_sublist _ hp
  conv => rhs; rw [hsp]
  exact (List.sublist_append_right _ _).trans (List.sublist_append_left _ _)

theorem mem_head_before {nw : Network} {p : List Nat} {a : Nat} (hp : PW nw p) (ha : a ∈ p) :
    a = p.headD 0 ∨ Before nw (p.headD 0) a := by
  cases p with
  | nil => cases ha
  | cons x xs =>
    rcases List.mem_cons.mp ha with e | hm
    · left; exact e
    · right; exact List.rel_of_pairwise_cons hp hm

theorem mem_last_after {nw : Network} {p : List Nat} {a : Nat} (hp : PW nw p) (ha : a ∈ p) :
    a = p.getLastD 0 ∨ Before nw a (p.getLastD 0) := by
  rcases List.eq_nil_or_concat p with rfl | ⟨q, z, rfl⟩
  · cases ha
  · rw [List.concat_eq_append] at hp ha ⊢
    rw [List.getLastD_concat]
    rcases List.mem_append.mp ha with hq | hz
    · exact .inr ((List.pairwise_append.mp hp).2.2 a hq z (List.mem_singleton_self z))
    · exact .inl (List.mem_singleton.mp hz)

theorem mem_take_before {nw : Network} {l : List Nat} {k a : Nat} (hp : PW nw l) (hk : k ≤ l.length)
    (hk0 : 0 < k) (ha : a ∈ l.take k) : a = l.getD (k - 1) 0 ∨ Before nw a (l.getD (k - 1) 0) := by
  have := mem_last_after (pw_sublist (List.take_sublist k l) hp) ha
  rwa [List.getLastD_eq_getLast?, List.getLast?_take, if_neg (Nat.ne_of_gt hk0),
    List.getElem?_eq_getElem (by omega), Option.some_or, ← List.getElem?_eq_getElem (by omega),
    ← List.getD_eq_getElem?_getD] at this

theorem mem_drop_after {nw : Network} {l : List Nat} {m b : Nat} (hp : PW nw l) (hb : b ∈ l.drop m) :
    b = l.getD m 0 ∨ Before nw (l.getD m 0) b := by
  have := mem_head_before (pw_sublist (List.drop_sublist m l) hp) hb
  rwa [List.headD_eq_head?_getD, List.head?_drop, ← List.getD_eq_getElem?_getD] at this

theorem stripForDummy_sublist (nw : Network) (path : List Nat) : (stripForDummy nw true path).Sublist path := by
  unfold stripForDummy
  simp only [Bool.not_true, Bool.false_eq_true, ↓reduceIte]
  split
  · split
    · exact (List.dropLast_sublist _).trans (List.drop_sublist _ _)
    · exact List.drop_sublist _ _
  · split
    · exact List.dropLast_sublist _
    · exact List.Sublist.refl _

/-- `Tour::insert_path` into a valid dummy tour gives a valid dummy tour, when the inserted path is
    pairwise ordered and, after dropping a leading/trailing depot, consists of activities -/
theorem insert_dummyOK (nw : Network) (hd : C17.DepotTimes nw) (hw : NodesWF' nw) (hap : C12.ActPos nw)
    (t t' : Tour) (path : List Nat) (rm : Option (List Nat)) (ht : DummyOK nw t) (hpw : PW nw path)
    (hstrip : ∀ x ∈ stripForDummy nw true path, (nw.node x).isDepot = false)
    (h : insertPath nw true t path = .ok (t', rm)) : DummyOK nw t' := by
  have hc := timeChain_of_pw nw t.nodes ht.pw
  obtain ⟨hnodes, hdum, -, hpne⟩ := insertPath_ref nw hd hw hc (List.length_pos_iff.mpr ht.ne) h
  rw [ht.dummy] at hnodes hdum hpne
  generalize hp' : stripForDummy nw true path = p' at *
  have hp'pw : PW nw p' := by rw [← hp']; exact pw_sublist (stripForDummy_sublist nw path) hpw
  have hfirst_mem : p'.headD 0 ∈ p' := by
    cases p' with
    | nil => exact absurd rfl hpne
    | cons a as => simp
  have hlast_mem : p'.getLastD 0 ∈ p' := by
    rw [List.getLastD_eq_getLast?, List.getLast?_eq_some_getLast hpne]
    exact List.getLast_mem _
  have hfnd := hstrip _ hfirst_mem
  have hlnd := hstrip _ hlast_mem
  have hres : (insertRef nw true t.nodes path).1 =
      t.nodes.take (keepPrefixLen nw t.nodes (p'.headD 0)) ++ p' ++ t.nodes.drop (keepSuffixStart nw t.nodes (p'.getLastD 0)) := by
    unfold insertRef
    simp only [hp', hfnd, hlnd, Bool.false_eq_true, ↓reduceIte]
  rw [hres] at hnodes
  have hkm := insertRef_range_le nw hd hw hap t.nodes p' hc (timeChain_of_pw nw p' hp'pw) hpne
  simp only [hfnd, hlnd, Bool.false_eq_true, ↓reduceIte] at hkm
  generalize hk : keepPrefixLen nw t.nodes (p'.headD 0) = k at *
  generalize hm : keepSuffixStart nw t.nodes (p'.getLastD 0) = m at *
  have hkle : k ≤ t.nodes.length := by rw [← hk]; exact lastTrueLen_le _ _
  refine ⟨hdum, ?_, ?_, ?_⟩
  · rw [hnodes]; intro e
    have := congrArg List.length e
    simp only [List.length_append, List.length_nil] at this
    have : p'.length = 0 := by omega
    exact hpne (List.length_eq_zero_iff.mp this)
  · rw [hnodes]; intro x hx
    rcases List.mem_append.mp hx with hx | hx
    · rcases List.mem_append.mp hx with hx | hx
      · exact ht.acts x (List.mem_of_mem_take hx)
      · exact hstrip x hx
    · exact ht.acts x (List.mem_of_mem_drop hx)
  · rw [hnodes]
    unfold PW
    rw [List.pairwise_append, List.pairwise_append]
    refine ⟨⟨pw_sublist (List.take_sublist _ _) ht.pw, hp'pw, ?_⟩, pw_sublist (List.drop_sublist _ _) ht.pw, ?_⟩
    · -- prefix before the path
      intro a ha b hb
      have hk0 : 0 < k := by
        cases k with
        | zero => simp at ha
        | succ _ => omega
      have hreach : nw.canReach (t.nodes.getD (k - 1) 0) (p'.headD 0) = true := by
        have := lastTrueLen_true (reachesAt nw t.nodes (p'.headD 0)) t.nodes.length (by unfold keepPrefixLen at hk; omega)
        unfold keepPrefixLen at hk
        rw [hk] at this
        exact this
      have hB : Before nw (t.nodes.getD (k - 1) 0) (p'.headD 0) := C17.reach_end_le_start nw hd _ _ hreach
      have h1 : Before nw a (p'.headD 0) := by
        rcases mem_take_before ht.pw hkle hk0 ha with e | hb'
        · rw [e]; exact hB
        · exact before_trans hw hb' hB
      rcases mem_head_before hp'pw hb with e | hb'
      · rw [e]; exact h1
      · exact before_trans hw h1 hb'
    · -- prefix and path before the suffix
      intro a ha b hb
      have hmlt : m < t.nodes.length := Nat.lt_of_not_le fun hle => by
        rw [List.drop_eq_nil_of_le hle] at hb
        cases hb
      have hreach : nw.canReach (p'.getLastD 0) (t.nodes.getD m 0) = true := by
        have := firstTrueFrom_true (reachedAt nw t.nodes (p'.getLastD 0)) t.nodes.length 0
          (by unfold keepSuffixStart at hm; omega)
        unfold keepSuffixStart at hm
        rw [hm] at this
        exact this
      have hB : Before nw (p'.getLastD 0) (t.nodes.getD m 0) := C17.reach_end_le_start nw hd _ _ hreach
      rcases List.mem_append.mp ha with ha | ha
      · -- a in the prefix, b in the suffix: both in the old tour, in this order
        have hsub := take_drop_sublist t.nodes k m hkm
        have := pw_sublist hsub ht.pw
        exact (List.pairwise_append.mp this).2.2 a ha b hb
      · have h1 : Before nw a (t.nodes.getD m 0) := by
          rcases mem_last_after hp'pw ha with e | hb'
          · rw [e]; exact hB
          · exact before_trans hw hb' hB
        rcases mem_drop_after ht.pw hb with e | hb'
        · rw [e]; exact h1
        · exact before_trans hw h1 hb'

def InnerAct (nw : Network) (path : List Nat) : Prop :=
  ∀ h mid l, path = h :: (mid ++ [l]) → ∀ x ∈ mid, (nw.node x).isDepot = false

theorem getLast?_cas (h : Nat) (mid : List Nat) (l : Nat) : (h :: (mid ++ [l])).getLast? = some l :=
  List.getLast?_concat (l := h :: mid)

theorem dropLast_cas (h : Nat) (mid : List Nat) (l : Nat) : (h :: (mid ++ [l])).dropLast = h :: mid :=
  List.dropLast_concat (l₁ := h :: mid)

theorem strip_nodepot {nw : Network} {path : List Nat} (hin : InnerAct nw path) :
    ∀ x ∈ stripForDummy nw true path, (nw.node x).isDepot = false := by
  intro x hx
  cases path with
  | nil => unfold stripForDummy at hx; simp at hx
  | cons h rest =>
    rcases List.eq_nil_or_concat rest with hr | ⟨mid, l, hr⟩
    · subst hr
      unfold stripForDummy at hx
      by_cases hd : (nw.node h).isDepot = true
      · simp [hd] at hx
      · have hd' : (nw.node h).isDepot = false := by simpa using hd
        simp [hd'] at hx
        rw [hx]; exact hd'
    · have hr : rest = mid ++ [l] := by rw [hr]; simp
      subst hr
      have hmid := hin h mid l rfl
      unfold stripForDummy at hx
      by_cases hd : (nw.node h).isDepot = true
      · by_cases hdl : (nw.node l).isDepot = true
        · simp [hd, hdl] at hx
          exact hmid x hx
        · have hdl' : (nw.node l).isDepot = false := by simpa using hdl
          simp [hd, hdl'] at hx
          rcases hx with hx | rfl
          · exact hmid x hx
          · exact hdl'
      · have hd' : (nw.node h).isDepot = false := by simpa using hd
        by_cases hdl : (nw.node l).isDepot = true
        · simp [hd', getLast?_cas, dropLast_cas, hdl] at hx
          rcases hx with rfl | hx
          · exact hd'
          · exact hmid x hx
        · have hdl' : (nw.node l).isDepot = false := by simpa using hdl
          simp [hd', getLast?_cas, hdl'] at hx
          rcases hx with rfl | hx | rfl
          · exact hd'
          · exact hmid x hx
          · exact hdl'

theorem innerAct_of_acts {nw : Network} {path : List Nat} (h : ∀ x ∈ path, (nw.node x).isDepot = false) :
    InnerAct nw path := by
  intro hd mid l e x hx
  exact h x (by rw [e]; simp [hx])

theorem first_not_inner {f : Nat} {T A M B : List Nat} {h l : Nat} (hn : (f :: T).Nodup)
    (e : f :: T = A ++ (h :: (M ++ [l])) ++ B) : ∀ x ∈ M, x ≠ f := by
  intro x hx hxf
  have hxT : x ∈ T := by
    cases A with
    | nil =>
      simp only [List.nil_append, List.cons_append, List.cons.injEq] at e
      rw [e.2]; simp [hx]
    | cons a0 A' =>
      simp only [List.cons_append, List.cons.injEq] at e
      rw [e.2]; simp [hx]
  rw [hxf] at hxT
  exact (List.nodup_cons.mp hn).1 hxT

/-- a contiguous piece of a valid real tour has depots only at its ends -/
theorem innerAct_of_contig {nw : Network} (hd : C17.DepotTimes nw) (hw : NodesWF' nw) (hap : C12.ActPos nw)
    {t : Tour} (ht : TourOK nw t) {A path B : List Nat} (e : t.nodes = A ++ path ++ B) : InnerAct nw path := by
  intro h M l hp x hx
  have hnd := tourOK_nodup hd hw hap ht
  obtain ⟨sd, mid, ed, hl, hsd, hed, _, hmidnd⟩ := ht.shape
  subst hp
  have hxn : x ∈ t.nodes := by rw [e]; simp [hx]
  rw [hl] at hxn hnd e
  have h1 : x ≠ sd := first_not_inner hnd e x hx
  have h2 : x ≠ ed := by
    have hrev : (sd :: (mid ++ [ed])).reverse = ed :: (mid.reverse ++ [sd]) := by simp
    have hnd' : (ed :: (mid.reverse ++ [sd])).Nodup := by rw [← hrev]; exact ((List.reverse_perm _).nodup_iff).mpr hnd
    have e' : ed :: (mid.reverse ++ [sd]) = B.reverse ++ (l :: (M.reverse ++ [h])) ++ A.reverse := by
      rw [← hrev, e]; simp
    exact first_not_inner hnd' e' x (by simpa using hx)
  simp only [List.mem_cons, List.mem_append, List.not_mem_nil, or_false] at hxn
  rcases hxn with hxn | hxn | hxn
  · exact absurd hxn h1
  · exact hmidnd x hxn
  · exact absurd hxn h2

end RSSched.C10D
