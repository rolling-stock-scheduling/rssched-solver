/-
Props/C09TourCaches: the tour-cache clause of C09 at schedule level, every history. By the tour-level
theorems of C09 the predicate "valid tour whose caches are exact" is kept by the five tour operations
the schedule uses (`C10S.TourPred`), so the schedule-level argument of Props/C10Tours applies to it.
-/
import RSSched.Props.C10Tours
import RSSched.Props.C09Insert
namespace RSSched.C09T
open Spec C02 C10L C09C C10S

/-- the two network hypotheses of the tour-cache theorems -/
def Net9 (nw : Network) : Prop := C09.DurFinite nw ∧ C09.DepotDistZero nw

structure TourOK (nw : Network) (t : Tour) : Prop extends C10T.TourOK nw t where
  caches : Net9 nw → C09.Exact nw t

theorem head_isStart {nw : Network} {t : Tour} (ht : C10T.TourOK nw t) :
    (nw.node (t.nodes.headD 0)).isStartDepot = true := by
  obtain ⟨sd, mid, ed, hl, hsd, _, _, _⟩ := ht.shape
  rw [hl]; exact hsd

theorem last_isEnd {nw : Network} {t : Tour} (ht : C10T.TourOK nw t) :
    (nw.node (t.nodes.getLastD 0)).isEndDepot = true := by
  obtain ⟨sd, mid, ed, hl, _, hed, _, _⟩ := ht.shape
  rw [hl, List.getLastD_eq_getLast?, ← List.cons_append, List.getLast?_concat]
  exact hed

theorem new_exact {nw : Network} {nodes : List Nat} {t : Tour} (h : Tour.new nw nodes = .ok t) : C09.Exact nw t := by
  obtain ⟨_, _, -, -, -, -, -, -, -, rfl⟩ := Tour.new_ok h
  exact (C09.exact_iff nw _).mp (C09.C09_computing_exact nw nodes false)

theorem tourOK_pred {nw : Network} (hd : C17.DepotTimes nw) (hw : NodesWF' nw) : TourPred nw (TourOK nw) where
  ok := TourOK.toTourOK
  new h := ⟨C10T.new_tourOK nw _ _ h, fun _ => new_exact h⟩
  insert ht hp h :=
    ⟨C10T.insert_tourOK nw hd hw _ _ _ _ ht.toTourOK hp h,
      fun h9 => C09.C09_insertPath nw h9.1 true _ _ _ _ (ht.caches h9) h⟩
  remove ht h :=
    ⟨C10T.remove_tourOK nw _ _ _ _ _ ht.toTourOK h, fun h9 => C09.C09_remove nw h9.1 _ _ _ _ _ (ht.caches h9) h⟩
  replaceStart ht h :=
    ⟨C10T.replaceStartDepot_tourOK nw _ _ _ ht.toTourOK h,
      fun h9 => C09.C09_replaceStartDepot nw h9.2 _ _ _ (ht.caches h9) (head_isStart ht.toTourOK) h⟩
  replaceEnd ht h :=
    ⟨C10T.replaceEndDepot_tourOK nw _ _ _ ht.toTourOK h,
      fun h9 => C09.C09_replaceEndDepot nw h9.2 _ _ _ (ht.caches h9) (last_isEnd ht.toTourOK) h⟩

def ToursOK (nw : Network) (T : Tours) : Prop := ∀ v t, assocGet? T v = some t → TourOK nw t

structure TInv (nw : Network) (s : Schedule) : Prop where
  listing : ListInv s
  dummies : DummyInv s
  tours : ToursOK nw s.tours

theorem C10_tours_step (nw : Network) (hdt : C17.DepotTimes nw) (hw : NodesWF' nw) (s : Schedule) (op : Spec.SOp)
    (r : OpResult) (hinv : TInv nw s) (h : applyOp nw s op = .ok r) : TInv nw r.sched :=
  ⟨C10_listing_step nw s op r hinv.listing h, dk_step nw s op r hinv.dummies h,
    toursP_step (tourOK_pred hdt hw) s op r hinv.listing hinv.tours h⟩

/-- every real vehicle's tour of every reachable schedule is valid (`C10T.TourOK`), with exact caches if
    the network satisfies `Net9` -/
theorem C10_tours_from_empty (nw : Network) (hdt : C17.DepotTimes nw) (hw : NodesWF' nw) (ops : List Spec.SOp)
    (s' : Schedule) (h : runOps nw (Schedule.empty nw) ops = some s') :
    TInv nw s' :=
  runOps_induct0 (C10_tours_step nw hdt hw) ops _ s' ⟨empty_listInv nw, empty_dk nw, toursP_empty nw⟩ h

/-- **C09 (tour caches), every history**: in every schedule the model reaches from the empty schedule
    by public modifications, the five cached figures of every real vehicle's tour (useful duration,
    service and dead-head distance, costs, visits-maintenance flag) equal their recomputation from the
    node list, on networks with finite node durations and distance-free depot nodes (`netHypsB`) -/
theorem C09_tourcaches_from_empty (nw : Network) (hdt : C17.DepotTimes nw) (hw : NodesWF' nw)
    (h9 : Net9 nw) (ops : List Spec.SOp) (s' : Schedule) (h : runOps nw (Schedule.empty nw) ops = some s') :
    ∀ v t, assocGet? s'.tours v = some t → tourCachesExactB nw t = true := by
  intro v t hv
  have := (C10_tours_from_empty nw hdt hw ops s' h).tours v t hv
  exact (C09.exact_iff nw t).mpr (this.caches h9)

theorem net9_of_netHyps (nw : Network) (h : netHypsB nw = true) : Net9 nw := by
  have := C09.netHyps_sound nw h
  exact ⟨this.2, this.1⟩

end RSSched.C09T
