/-
Props/C09Tour: `replace_start_depot` and `replace_end_depot` preserve exactness of the five cached
figures (service distance, dead-head distance, useful duration, costs, visits-maintenance). Replacing
a depot is the splice of a singleton, and a depot node adds nothing to the per-node figures when
depots carry no distance (`DepotDistZero`). `remove` and `insert_path` are in Props/C09Insert.
-/
import RSSched.Lemmas.SegIndex
import RSSched.Props.C09
namespace RSSched.C09
open Network Tour Spec

structure Exact (nw : Network) (t : Tour) : Prop where
  vm : t.visitsMaint = nw.visitsMaintOf t.nodes
  ud : t.usefulDur = nw.usefulDurOf t.nodes
  sd : t.serviceDist = nw.serviceDistOf t.nodes
  dh : t.dhDist = nw.dhDistOf t.nodes
  co : t.costs = nw.costsOf t.nodes

theorem exact_iff (nw : Network) (t : Tour) : tourCachesExactB nw t = true ↔ Exact nw t := by
  constructor
  · intro h
    obtain ⟨h1, h2, h3, h4, h5⟩ := C09_monitor_sound nw t h
    exact ⟨h1, h2, h3, h4, h5⟩
  · intro h
    simp [tourCachesExactB, tourCacheDiffs, Tour.computing, ← h.vm, ← h.ud, ← h.sd, ← h.dh, ← h.co]

/-- depot nodes carry no distance (`Node::travel_distance` of a depot is zero) -/
def DepotDistZero (nw : Network) : Prop := ∀ i, (nw.node i).isDepot = true → (nw.node i).dist = 0

theorem nodeDur_depot (nw : Network) (i : Nat) (h : (nw.node i).isDepot = true) : nw.nodeDur i = Dur.zero := by
  simp [nodeDur, Node.duration, h]

theorem nodeCost_depot (nw : Network) (i : Nat) (h : (nw.node i).isDepot = true) : nw.nodeCost i = 0 := by
  unfold nodeCost
  simp only [Node.isDepot, Node.isStartDepot, Node.isEndDepot, Bool.or_eq_true, beq_iff_eq] at h
  rcases h with h | h <;> simp [h]

theorem isMaint_depot (nw : Network) (i : Nat) (h : (nw.node i).isDepot = true) : (nw.node i).isMaint = false := by
  simp only [Node.isDepot, Node.isStartDepot, Node.isEndDepot, Bool.or_eq_true, beq_iff_eq] at h
  rcases h with h | h <;> simp [Node.isMaint, h]

/-- a link that leaves a start depot or enters an end depot has no idle time -/
theorem linkCost_depot (nw : Network) (a b : Nat)
    (h : (nw.node a).isStartDepot = true ∨ (nw.node b).isEndDepot = true) :
    nw.linkCost a b = nw.secOrPlanning (nw.deadHeadTimeBetween a b) * nw.cDH := by
  rcases h with h | h <;> simp [linkCost, idleTimeBetween, h, secOrPlanning, Dur.inSec?]

theorem usefulDurOf_cons (nw : Network) (x : Nat) (r : List Nat) :
    nw.usefulDurOf (x :: r) = Dur.add (nw.nodeDur x) (nw.usefulDurOf r) := by
  simp only [usefulDurOf, List.map_cons, sumDur_cons]

theorem serviceDistOf_cons (nw : Network) (x : Nat) (r : List Nat) :
    nw.serviceDistOf (x :: r) = Dist.add (Dist.d (nw.node x).dist) (nw.serviceDistOf r) := by
  simp only [serviceDistOf, List.map_cons, sumDist_cons]

theorem isDepot_of_start {n : Node} (h : n.isStartDepot = true) : n.isDepot = true := by simp [Node.isDepot, h]
theorem isDepot_of_end {n : Node} (h : n.isEndDepot = true) : n.isDepot = true := by simp [Node.isDepot, h]

theorem depot_alone (nw : Network) (hz : DepotDistZero nw) {x : Nat} (hx : (nw.node x).isDepot = true) :
    nw.visitsMaintOf [x] = false ∧ nw.usefulDurOf [x] = Dur.zero ∧ nw.serviceDistOf [x] = Dist.zero := by
  refine ⟨?_, ?_, ?_⟩
  · simp [visitsMaintOf, isMaint_depot nw x hx]
  · rw [usefulDurOf_cons, nodeDur_depot nw x hx]; rfl
  · rw [serviceDistOf_cons, hz x hx]; rfl

theorem replaceDepot_exact (nw : Network) (hz : DepotDistZero nw) {t : Tour} (hE : Exact nw t)
    {pre suf : List Nat} {o d : Nat} (ht : t.nodes = pre ++ [o] ++ suf)
    (ho : (nw.node o).isDepot = true) (hd : (nw.node d).isDepot = true)
    {so sd dh : Dist} (hso : nw.segD pre [o] suf = so) (hsd : nw.segD pre [d] suf = sd)
    (hdh : if t.dhDist == .inf then dh = nw.dhDistOf (pre ++ [d] ++ suf)
      else ∃ x, Dist.sub t.dhDist so = .ok x ∧ dh = Dist.add x sd)
    {co cd c : Nat} {site : String} (hco : nw.segC pre [o] suf = co) (hcd : nw.segC pre [d] suf = cd)
    (hc : subNat t.costs co site = .ok c) :
    Exact nw { t with nodes := pre ++ [d] ++ suf, dhDist := dh, costs := c + cd } := by
  subst hso hsd hco hcd
  obtain ⟨o1, o2, o3⟩ := depot_alone nw hz ho
  obtain ⟨d1, d2, d3⟩ := depot_alone nw hz hd
  refine ⟨?_, ?_, ?_, ?_, ?_⟩
  · exact hE.vm.trans (by simp only [ht, visitsMaintOf_append, o1, d1])
  · exact hE.ud.trans (by simp only [ht, usefulDurOf_append, o2, d2])
  · exact hE.sd.trans (by simp only [ht, serviceDistOf_append, o3, d3])
  · split at hdh
    · exact hdh
    · rename_i hinf
      obtain ⟨x, hx, rfl⟩ := hdh
      exact dhDistOf_delta nw pre [o] [d] suf (ht ▸ hE.dh) (by simpa using hinf) hx
  · rw [(subNat_ok hc).2]
    exact costsOf_delta nw pre [o] [d] suf (ht ▸ hE.co)

theorem C09_replaceStartDepot (nw : Network) (hz : DepotDistZero nw) (t t' : Tour) (d : Nat)
    (hx : Exact nw t) (hs : (nw.node (t.nodes.headD 0)).isStartDepot = true)
    (h : replaceStartDepot nw t d = .ok t') : Exact nw t' := by
  obtain ⟨_, hd, old, fnd, dh, c, hold, hfnd, hdh, hc, rfl⟩ := replaceStartDepot_ok h
  have ho := idxAt_inv hold
  have hf := idxAt_inv hfnd
  match hn : t.nodes with
  | [] => rw [hn] at ho; cases ho
  | [_] => rw [hn] at hf; cases hf
  | o :: f :: rest =>
    simp only [hn, List.getElem?_cons_zero, List.set_cons_zero, List.getElem?_cons_succ, Option.some.injEq] at ho hf
    subst ho hf
    rw [hn] at hs hdh
    have segD_start : ∀ x, nw.segD [] [x] (f :: rest) = nw.deadHeadDistanceBetween x f := fun x => by
      simp [segD, connD, conn, dhDistOf, pairs]
    have segC_start : ∀ x, (nw.node x).isStartDepot = true →
        nw.segC [] [x] (f :: rest) = nw.secOrPlanning (nw.deadHeadTimeBetween x f) * nw.cDH := fun x hx => by
      simp [segC, connC, conn, linkSum, nodeCostSum, pairs, sumNat, nodeCost_depot nw x (isDepot_of_start hx),
        linkCost_depot nw x f (.inl hx)]
    exact replaceDepot_exact nw hz hx (pre := []) hn (isDepot_of_start hs) (isDepot_of_start hd)
      (segD_start _) (segD_start _) hdh (segC_start _ hs) (segC_start _ hd) hc

theorem C09_replaceEndDepot (nw : Network) (hz : DepotDistZero nw) (t t' : Tour) (d : Nat)
    (hx : Exact nw t) (hs : (nw.node (t.nodes.getLastD 0)).isEndDepot = true)
    (h : replaceEndDepot nw t d = .ok t') : Exact nw t' := by
  obtain ⟨_, hd, hlen, old, lnd, dh, c, hold, hlnd, hdh, hc, rfl⟩ := replaceEndDepot_ok h
  obtain ⟨A, hn⟩ := List.getLast?_eq_some_iff.mp (List.getLast?_eq_getElem?.trans (idxAt_inv hold))
  have hset : t.nodes.set (t.nodes.length - 1) d = A ++ [d] ++ [] := by
    rw [hn, List.length_append, List.length_singleton, Nat.add_sub_cancel, List.set_append_right _ _ (Nat.le_refl _),
      Nat.sub_self, List.append_nil]
    rfl
  have hA : A.getLast? = some lnd := by
    have := idxAt_inv hlnd
    rw [hn, List.length_append, List.length_singleton] at hlen
    rwa [hset, List.append_nil, hn, List.length_append, List.length_singleton, Nat.add_sub_cancel,
      getElem?_append_pred _ _ (by rintro rfl; simp at hlen)] at this
  rw [hn, List.getLastD_eq_getLast?, List.getLast?_concat, Option.getD_some] at hs
  rw [hset] at hdh ⊢
  have segD_end : ∀ x, nw.segD A [x] [] = nw.deadHeadDistanceBetween lnd x := fun x => by
    simp [segD, connD, conn, hA, dhDistOf, pairs]
  have segC_end : ∀ x, (nw.node x).isEndDepot = true →
      nw.segC A [x] [] = nw.secOrPlanning (nw.deadHeadTimeBetween lnd x) * nw.cDH := fun x hx => by
    simp [segC, connC, conn, hA, linkSum, nodeCostSum, pairs, sumNat, nodeCost_depot nw x (isDepot_of_end hx),
      linkCost_depot nw lnd x (.inr hx)]
  exact replaceDepot_exact nw hz hx (suf := []) (by rw [hn, List.append_nil]) (isDepot_of_end hs) (isDepot_of_end hd)
    (segD_end _) (segD_end _) hdh (segC_end _ hs) (segC_end _ hd) hc

end RSSched.C09
