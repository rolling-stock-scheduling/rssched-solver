/-
Props/C16Pipeline: the pipeline of `solve_instance`, as modelled by `Solve.solve`, only ever produces
schedules that public modifications (plus `set_next_day_transitions`) build from the empty schedule.
Hence the invariants proved for every history hold at every stage (C01/C02/C10 at pipeline level;
C16: each stage is applied to the result of the one before).
-/
import RSSched.Props.C11Swaps
namespace RSSched.C16P
open Schedule Solve C02 C11S

/-- the schedules the pipeline can hold -/
inductive PReach (nw : Network) : Schedule → Prop
  | empty : PReach nw (Schedule.empty nw)
  | ops {s c : Schedule} : PReach nw s → Reaches nw s c → PReach nw c
  | setTransitions {s : Schedule} (trans : List (Nat × Transition)) : (trans.map (·.1)).Nodup → PReach nw s →
      PReach nw (setNextDayTransitions s trans)

/-- the invariants of C02Limits, C10Listing, C10Tours, C09Costs (dummy keys) and C09Sched together -/
structure StageInv (nw : Network) (s : Schedule) : Prop where
  limits : FormLimits nw s.formations
  tinv : C10S.TInv nw s
  viol : C09S.ViolExact s.transitions s.violation

theorem stageInv_of_preach (nw : Network) (hdt : C17.DepotTimes nw) (hw : NodesWF' nw) :
    ∀ {s : Schedule}, PReach nw s → StageInv nw s := by
  intro s h
  induction h with
  | empty =>
    exact ⟨C02_limits_from_empty nw [] _ rfl, C10S.C10_tours_from_empty nw hdt hw [] _ rfl,
      C09S.C09_violation_from_empty nw [] _ rfl⟩
  | ops _ hr ih =>
    obtain ⟨ops, e⟩ := hr
    exact ⟨C02_limits_reachable nw ops _ _ ih.limits e, C10S.C10_tours_reachable nw hdt hw ops _ _ ih.tinv e,
      C09S.C09_violation_reachable nw ops _ _ ih.viol e⟩
  | setTransitions trans hnd _ ih =>
    refine ⟨ih.limits, ⟨ih.tinv.listing, ih.tinv.dummies, ih.tinv.tours⟩, ?_⟩
    exact ⟨hnd, rfl⟩

/-- `Schedule::from_tours` is a sequence of `spawn_vehicle_for_path` -/
theorem fromTours_runs {nw : Network} {P : Prop} {byType : List (Nat × List (List Nat))} {c : Schedule}
    (h : fromTours nw byType = .ok c) : Runs nw P (Schedule.empty nw) c := by
  refine foldlM_induct _ (Runs nw P (Schedule.empty nw)) byType _ c (fun p _ s0 s1 r0 h1 => ?_) Runs.refl h
  refine foldlM_induct _ (Runs nw P (Schedule.empty nw)) p.2 s0 s1 (fun tour _ s2 s3 r2 h3 => ?_) r0 h1
  obtain ⟨⟨s', v⟩, hs, h3⟩ := bind_ok h3
  cases h3
  exact r2.trans (Runs.op (applyOp_spawn hs))

theorem fromTours_reach {nw : Network} {byType : List (Nat × List (List Nat))} {c : Schedule}
    (h : fromTours nw byType = .ok c) : Reaches nw (Schedule.empty nw) c :=
  (fromTours_runs (P := True) h).reaches

/-- a successful `solve_instance`: each stage is applied to the result of the one before -/
theorem solve_ok {nw : Network} {o : Oracle} {tr : Trace} (h : solve nw o = .ok tr) :
    fromTours nw o.tours = .ok tr.flow ∧
    improveDepots nw tr.flow none = .ok tr.start ∧
    tr.afterSearch = (if nw.maintNodes.isEmpty then tr.start
      else (searchFuel Schedule.objective (nbrs nw o.limit o.threshold) o.fuel tr.start).1) ∧
    tr.withTransitions = setNextDayTransitions tr.afterSearch (o.optimise tr.afterSearch) ∧
    reassignEndDepotsConsistent nw tr.withTransitions = .ok tr.final := by
  unfold solve at h
  obtain ⟨flow, hf, h⟩ := bind_ok h
  obtain ⟨start, hs, h⟩ := bind_ok h
  obtain ⟨final, hfin, h⟩ := bind_ok h
  cases h
  exact ⟨hf, hs, rfl, rfl, hfin⟩

theorem solve_closed {nw : Network} {J : Schedule → Prop} (hJ : RunClosed nw J) (h0 : J (Schedule.empty nw))
    {o : Oracle} (hset : ∀ s, J s → J (setNextDayTransitions s (o.optimise s))) {tr : Trace}
    (h : solve nw o = .ok tr) : J tr.flow ∧ J tr.start ∧ J tr.afterSearch ∧ J tr.withTransitions ∧ J tr.final := by
  obtain ⟨hf, hs, ha, hw, hfin⟩ := solve_ok h
  have j1 : J tr.flow := hJ _ _ h0 (fromTours_runs hf)
  have j2 : J tr.start := hJ _ _ j1 (Runs.op (applyOp_improve hs))
  have j3 : J tr.afterSearch := by
    rw [ha]
    split
    · exact j2
    · exact search_closed hJ o.limit o.threshold o.fuel tr.start j2
  have j4 : J tr.withTransitions := hw ▸ hset _ j3
  exact ⟨j1, j2, j3, j4, hJ _ _ j4 (Runs.op (applyOp_endConsistent hfin))⟩

theorem solve_preach {nw : Network} {o : Oracle} {tr : Trace}
    (hopt : ∀ s, ((o.optimise s).map (·.1)).Nodup) (h : solve nw o = .ok tr) :
    PReach nw tr.flow ∧ PReach nw tr.start ∧ PReach nw tr.afterSearch ∧ PReach nw tr.withTransitions ∧
    PReach nw tr.final :=
  solve_closed (fun _ _ hp hr => PReach.ops hp hr.reaches) PReach.empty
    (fun s hp => PReach.setTransitions _ (hopt s) hp) h

/-- **C01 / C02 / C10 at pipeline level, C16**: whatever the network (hypotheses `tourHypsB`), the
    decoded flow, the number of local-search steps and the transition optimiser, if the modelled
    `solve_instance` returns, then the start schedule, the local-search result, the schedule carrying
    the optimised transitions and the returned schedule all satisfy `StageInv`: every formation within
    min(type limit, segment limit) / track count; vehicle listing exact; every real tour a connectable
    depot-to-depot chain; cached violation = Σ per-type totals. And the wiring is that of `solve_ok`. -/
theorem C16_pipeline_stages_valid (nw : Network) (hdt : C17.DepotTimes nw) (hw : NodesWF' nw) (o : Oracle)
    (hopt : ∀ s, ((o.optimise s).map (·.1)).Nodup) (tr : Trace) (h : solve nw o = .ok tr) :
    (StageInv nw tr.start ∧ StageInv nw tr.afterSearch ∧ StageInv nw tr.withTransitions ∧ StageInv nw tr.final) ∧
    fromTours nw o.tours = .ok tr.flow ∧
    improveDepots nw tr.flow none = .ok tr.start ∧
    tr.afterSearch = (if nw.maintNodes.isEmpty then tr.start
      else (searchFuel Schedule.objective (nbrs nw o.limit o.threshold) o.fuel tr.start).1) ∧
    tr.withTransitions = setNextDayTransitions tr.afterSearch (o.optimise tr.afterSearch) ∧
    reassignEndDepotsConsistent nw tr.withTransitions = .ok tr.final := by
  obtain ⟨_, p2, p3, p4, p5⟩ := solve_preach hopt h
  exact ⟨⟨stageInv_of_preach nw hdt hw p2, stageInv_of_preach nw hdt hw p3, stageInv_of_preach nw hdt hw p4,
    stageInv_of_preach nw hdt hw p5⟩, solve_ok h⟩

/-- the last stage writes neither formations nor vehicle types, and the schedule handed to it carries
    exactly the transitions the optimiser returned for the local-search result -/
theorem C16_final_carries_optimised (nw : Network) (o : Oracle) (tr : Trace) (h : solve nw o = .ok tr) :
    tr.final.formations = tr.afterSearch.formations ∧ tr.final.vehicles = tr.afterSearch.vehicles ∧
    tr.withTransitions.transitions = o.optimise tr.afterSearch := by
  obtain ⟨_, _, _, hw, hfin⟩ := solve_ok h
  obtain ⟨_, _, _, _, _, e⟩ := reassignEndDepotsConsistent_depotOnly hfin
  rw [e, hw]
  exact ⟨rfl, rfl, rfl⟩

end RSSched.C16P
