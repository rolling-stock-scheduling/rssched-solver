/-
Props/C15Optimise: the transition optimiser of the pipeline as a model function — a local search over
the modelled transition neighbourhood (`TransSearch.neighbors`: move one or two vehicles between two
rotation cycles, re-optimise both cycles by 3-opt) with ANY rule for choosing among the neighbours —
keeps every transition consistent over the same vehicles, which discharges the hypothesis of
`C05_pipeline_cycles`. Last, under the same invariants the cached maintenance violation is the value
computed from tours and cycle membership alone (`violation_true`).
-/
import RSSched.Props.C15Search
import RSSched.Props.C10Cycles
namespace RSSched.C15Opt
open RSSched C15 C15N C10Cyc C10F

/-- a rule that picks the next transition among the neighbours of the current one (the real code
    takes a best one among those that improve; which one, the theorems do not need to know) -/
structure Pick where
  pick : List Transition → Transition → Option Transition
  mem : ∀ l tr t, pick l tr = some t → t ∈ l

def tsearch (nw : Network) (tours : Tours) (p : Pick) : Nat → Transition → Transition
  | 0, tr => tr
  | fuel + 1, tr =>
    match TransSearch.neighbors nw tours tr with
    | .ok l =>
      match p.pick l tr with
      | some t => tsearch nw tours p fuel t
      | none => tr
    | .error _ => tr

theorem tsearch_consistent (nw : Network) (tours : Tours) (p : Pick) : ∀ (fuel : Nat) (tr : Transition),
    Consistent nw (overlay [] tours) tr →
    Consistent nw (overlay [] tours) (tsearch nw tours p fuel tr) ∧
      ∀ w, w ∈ members (tsearch nw tours p fuel tr) ↔ w ∈ members tr
  | 0, tr, hc => ⟨hc, fun _ => Iff.rfl⟩
  | fuel + 1, tr, hc => by
    unfold tsearch
    split
    · rename_i l hl
      split
      · rename_i t ht
        obtain ⟨hc1, hm1, _⟩ := C15.neighbors_consistent nw tours tr l hc hl t (p.mem l tr t ht)
        obtain ⟨hc2, hm2⟩ := tsearch_consistent nw tours p fuel t hc1
        exact ⟨hc2, fun w => (hm2 w).trans (hm1 w)⟩
      · exact ⟨hc, fun _ => Iff.rfl⟩
    · exact ⟨hc, fun _ => Iff.rfl⟩

/-- the modelled optimiser: every type's transition is searched with the schedule's tours -/
def optimise (nw : Network) (p : Pick) (fuel : Nat) (s : Schedule) : List (Nat × Transition) :=
  s.transitions.map (fun q => (q.1, tsearch nw s.tours p fuel q.2))

theorem optimise_keys (nw : Network) (p : Pick) (fuel : Nat) (s : Schedule) :
    (optimise nw p fuel s).map (·.1) = s.transitions.map (·.1) := by
  unfold optimise
  rw [List.map_map]
  rfl

theorem assocGet?_map_snd {κ ν : Type} [DecidableEq κ] (f : ν → ν) : ∀ (l : List (κ × ν)) (k : κ),
    assocGet? (l.map (fun q => (q.1, f q.2))) k = (assocGet? l k).map f
  | [], k => by simp [assocGet?_nil]
  | q :: qs, k => by
    rw [List.map_cons, assocGet?_cons, assocGet?_cons]
    by_cases e : q.1 = k
    · simp [e]
    · simp only [e, ↓reduceIte]
      exact assocGet?_map_snd f qs k

theorem optimise_cyc {nw : Network} (p : Pick) (fuel : Nat) {s : Schedule} (hcyc : CycInv nw s) :
    CycInv nw (Schedule.setNextDayTransitions s (optimise nw p fuel s)) := by
  refine cycInv_setTransitions hcyc (fun vt new hg => ?_)
  unfold optimise at hg
  rw [assocGet?_map_snd] at hg
  obtain ⟨tr, hold, rfl⟩ := Option.map_eq_some_iff.mp hg
  exact ⟨tr, hold, tsearch_consistent nw s.tours p fuel tr⟩

theorem optimise_invC {nw : Network} (hn : NetHyp nw) (hovf : C10Lim.OvfNode nw) (p : Pick) (fuel : Nat)
    {s : Schedule} (hs : InvC nw s) : InvC nw (Schedule.setNextDayTransitions s (optimise nw p fuel s)) := by
  refine ⟨(C10Lim.stepInv_limits hn hovf).setT s _ ?_ hs.base, optimise_cyc p fuel hs.cycles⟩
  rw [optimise_keys]
  exact hs.viol.1

/-- **C05 / C10 / C15 at pipeline level, with the modelled transition optimiser**: for every network
    with the decidable hypotheses, every decoded flow, every number of local-search steps, every rule
    for choosing among the neighbours of the transition search and every fuel — if the modelled
    `solve_instance` returns, then the start schedule, the local-search result and the returned
    schedule satisfy every clause of C10 (`InvC`), rotation cycles included -/
theorem C05_pipeline_cycles_modelled (nw : Network) (hn : NetHyp nw) (hovf : C10Lim.OvfNode nw) (o : Solve.Oracle)
    (p : Pick) (fuel : Nat) (ho : o.optimise = optimise nw p fuel) (tr : Solve.Trace)
    (h : Solve.solve nw o = .ok tr) :
    InvC nw tr.start ∧ InvC nw tr.afterSearch ∧ InvC nw tr.final := by
  refine C11A.solve_inv0 (stepInv0_cycles hn hovf) o (fun s hs => ?_) tr h
  rw [ho]
  exact optimise_invC hn hovf p fuel hs

/-- in the returned schedule the real vehicles of a type are exactly the vehicles that the lookup of
    the type's transition knows (that no vehicle lies in two cycles is the other half of `one_cycle`) -/
theorem C05_final_partition (nw : Network) (hn : NetHyp nw) (hovf : C10Lim.OvfNode nw) (o : Solve.Oracle)
    (p : Pick) (fuel : Nat) (ho : o.optimise = optimise nw p fuel) (tr : Solve.Trace)
    (h : Solve.solve nw o = .ok tr) {vt : Nat} {t : Transition}
    (ht : assocGet? tr.final.transitions vt = some t) (v : Veh) :
    (assocGet? tr.final.vehicles v = some vt ↔ ∃ i, assocGet? t.lookup v = some i) :=
  (one_cycle (C05_pipeline_cycles_modelled nw hn hovf o p fuel ho tr h).2.2.cycles ht v).1

/-- the maintenance violation of a schedule computed from nothing but tours and cycle membership:
    per type and cycle, the positive part of Σ maintenance counters + Σ cyclic depot links -/
def trueViolation (nw : Network) (s : Schedule) : Int :=
  sumInt (s.transitions.map (fun q =>
    sumInt (q.2.cycles.map (fun c => posMax0 (counterSpec nw (TM s.tours) c.vehicles)))))

/-- **C04 / C09 (maintenance violation)**: in every schedule satisfying the invariants (`InvC`: every
    reachable schedule, every candidate, every stage of the pipeline with the modelled optimiser) the
    cached maintenance violation equals the from-scratch value -/
theorem violation_true {nw : Network} {s : Schedule} (hinv : InvC nw s) : s.violation = trueViolation nw s := by
  obtain ⟨hkeys, hviol⟩ := hinv.viol
  rw [hviol]
  unfold C09S.sumVal trueViolation
  refine congrArg sumInt (List.map_congr_left (fun q hq => ?_))
  have hg : assocGet? s.transitions q.1 = some q.2 := assocGet?_of_mem hkeys (by simpa using hq)
  obtain ⟨hc, _⟩ := hinv.cycles q.1 q.2 hg
  show q.2.totalViolation = _
  rw [hc.totV]
  unfold sumViolations
  refine congrArg sumInt (List.map_congr_left (fun c hcm => ?_))
  obtain ⟨i, hi, hget⟩ := List.getElem_of_mem hcm
  rw [hc.counter i c (by rw [List.getElem?_eq_getElem hi, hget])]

end RSSched.C15Opt
