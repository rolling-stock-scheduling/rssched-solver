/-
Props/C10Limits: the depot-limits clause of C10 / C02, for the model, every history: for every real
depot (the artificial overflow depot is exempt) the number of vehicles of a type that start there
stays within the per-type capacity, and the number of all vehicles that start there within the
total capacity. By the exact bookkeeping of Props/C10Usage the counts change only when a vehicle's
start depot changes, and every such change is guarded by `can_depot_spawn_vehicle`, goes to the
overflow depot, or takes over the place of a vehicle that disappears in the same modification.

The total capacity bounds a sum over the network's types, so a vehicle that gives up its place is
counted in it only if its type is one of them; that is known through the type keys of the per-type id
lists (`IdsIn`), which no modification changes.
-/
import RSSched.Props.C10Usage
namespace RSSched.C10Lim
open Schedule Tour Spec C02 C10T C10L C09C C10S C10F C10D C10Fit C10U

theorem length_grow {α : Type} (S S' : List α) (arr : α) (hnd : S'.Nodup)
    (h : ∀ x ∈ S', x ∈ S ∨ x = arr) : S'.length ≤ S.length + 1 :=
  hnd.length_le_of_subset (l₂ := arr :: S)
    (fun x hx => (h x hx).elim (List.mem_cons_of_mem _) (· ▸ List.mem_cons_self))

theorem length_takeover {α : Type} [DecidableEq α] (S S' : List α) (arr dep : α) (hnd : S'.Nodup)
    (hdep : dep ∈ S) (hgone : dep ∉ S') (h : ∀ x ∈ S', x ∈ S ∨ x = arr) : S'.length ≤ S.length := by
  have := hnd.length_le_of_subset (l₂ := arr :: S.erase dep) (fun x hx => by
    rcases h x hx with h | h
    · have hne : x ≠ dep := fun e => hgone (e ▸ hx)
      simp [(List.mem_erase_of_ne hne).mpr h]
    · simp [h])
  rw [List.length_cons, List.length_erase_of_mem hdep] at this
  have : 0 < S.length := List.length_pos_of_mem hdep
  omega

theorem length_left {α : Type} [DecidableEq α] (S S' : List α) (dep : α) (hnd : S'.Nodup)
    (hdep : dep ∈ S) (hgone : dep ∉ S') (h : ∀ x ∈ S', x ∈ S) : S'.length + 1 ≤ S.length := by
  have := hnd.length_le_of_subset (l₂ := S.erase dep) (fun x hx => by
    have hne : x ≠ dep := fun e => hgone (e ▸ hx)
    exact (List.mem_erase_of_ne hne).mpr (h x hx))
  rw [List.length_erase_of_mem hdep] at this
  have : 0 < S.length := List.length_pos_of_mem hdep
  omega

theorem sum_le_sum (l : List Nat) (f f' a b : Nat → Nat) (h : ∀ x ∈ l, f' x + a x ≤ f x + b x) :
    sumNat (l.map f') + sumNat (l.map a) ≤ sumNat (l.map f) + sumNat (l.map b) := by
  induction l with
  | nil => simp [sumNat]
  | cons x xs ih =>
    have h1 := h x (by simp)
    have h2 := ih (fun y hy => h y (by simp [hy]))
    simp only [List.map_cons, sumNat, List.foldr_cons] at h2 ⊢
    omega

theorem sum_mono (l : List Nat) (f f' : Nat → Nat) (h : ∀ x ∈ l, f' x ≤ f x) :
    sumNat (l.map f') ≤ sumNat (l.map f) := by
  have := sum_le_sum l f f' (fun _ => 0) (fun _ => 0) h
  omega

theorem sum_zero (l : List Nat) : sumNat (l.map (fun _ => 0)) = 0 := by
  induction l with
  | nil => rfl
  | cons x xs ih => simp only [List.map_cons, sumNat, List.foldr_cons] at ih ⊢; omega

theorem sum_indicator (l : List Nat) (A : Nat) : sumNat (l.map (fun x => if x = A then 1 else 0)) = l.count A := by
  induction l with
  | nil => simp [sumNat]
  | cons x xs ih =>
    simp only [List.map_cons, sumNat, List.foldr_cons] at ih ⊢
    rw [ih, List.count_cons]
    by_cases e : x = A
    · simp [e]; omega
    · simp [e]

theorem count_range_le (n A : Nat) : (List.range n).count A ≤ 1 :=
  List.nodup_iff_count.mp List.nodup_range A

theorem count_range_mem (n A : Nat) (h : A < n) : (List.range n).count A = 1 := by
  rw [List.nodup_range.count, if_pos (List.mem_range.mpr h)]

/-- number of vehicles of type `vt` starting in depot `d` -/
def cnt (u : DepotUsage) (d vt : Nat) : Nat := (side true (getK u (d, vt))).length

theorem cnt_eq (u : DepotUsage) (d vt : Nat) : spawnedCount u d vt = cnt u d vt := rfl

/-- **the depot-limits clause**: every depot but the overflow depot respects its per-type and its
    total capacity -/
def Limits (nw : Network) (u : DepotUsage) : Prop :=
  ∀ d, d ≠ nw.overflowDepot →
    (∀ vt, cnt u d vt ≤ nw.capacityOf d vt) ∧
    sumNat (nw.typeIdxs.map (fun vt => cnt u d vt)) ≤ nw.totalCapacityOf d

theorem canSpawn_facts {nw : Network} {u : DepotUsage} {dn vt : Nat} (h : canDepotSpawn nw u dn vt = true) :
    cnt u (nw.depotIdxOf dn) vt < nw.capacityOf (nw.depotIdxOf dn) vt ∧
    sumNat (nw.typeIdxs.map (fun vt => cnt u (nw.depotIdxOf dn) vt)) < nw.totalCapacityOf (nw.depotIdxOf dn) := by
  unfold canDepotSpawn at h
  dsimp only at h
  split at h
  · cases h
  · split at h
    · cases h
    · split at h
      · cases h
      · rename_i _ h2 h3
        unfold spawnedTotal at h3
        simp only [cnt_eq] at h2 h3
        constructor <;> omega

/-- the start sets of two usage maps, compared key by key: `arr` may have arrived at `ka` -/
def GrowAt (u u' : DepotUsage) (arr : Veh) (ka : Nat × Nat) : Prop :=
  ∀ k w, w ∈ side true (getK u' k) → w ∈ side true (getK u k) ∨ (w = arr ∧ k = ka)

theorem limits_shrink {nw : Network} {u u' : DepotUsage} (hl : Limits nw u) (hnd : ∀ k, (side true (getK u' k)).Nodup)
    (h : ∀ k w, w ∈ side true (getK u' k) → w ∈ side true (getK u k)) : Limits nw u' := by
  have hle : ∀ d vt, cnt u' d vt ≤ cnt u d vt := fun d vt =>
    (hnd (d, vt)).length_le_of_subset (fun x hx => h (d, vt) x hx)
  intro d hd
  obtain ⟨h1, h2⟩ := hl d hd
  refine ⟨fun vt => Nat.le_trans (hle d vt) (h1 vt), ?_⟩
  exact Nat.le_trans (sum_mono nw.typeIdxs (fun vt => cnt u d vt) (fun vt => cnt u' d vt) (fun vt _ => hle d vt)) h2

theorem cnt_other {u u' : DepotUsage} {arr : Veh} {d0 vt0 d : Nat} (hnd : ∀ k, (side true (getK u' k)).Nodup)
    (h : GrowAt u u' arr (d0, vt0)) (hd : d ≠ d0) (vt : Nat) : cnt u' d vt ≤ cnt u d vt :=
  (hnd _).length_le_of_subset (fun x hx => (h _ x hx).resolve_right (fun h' => hd (Prod.mk.inj h'.2).1))

theorem cnt_grow {u u' : DepotUsage} {arr : Veh} {d0 vt0 : Nat} (hnd : ∀ k, (side true (getK u' k)).Nodup)
    (h : GrowAt u u' arr (d0, vt0)) (vt : Nat) : cnt u' d0 vt ≤ cnt u d0 vt + (if vt = vt0 then 1 else 0) := by
  unfold cnt
  by_cases e : vt = vt0
  · rw [if_pos e]
    subst e
    exact length_grow _ _ arr (hnd _) (fun x hx => (h _ x hx).imp id (·.1))
  · rw [if_neg e, Nat.add_zero]
    exact (hnd _).length_le_of_subset (fun x hx => (h _ x hx).resolve_right (fun h' => e (Prod.mk.inj h'.2).2))

/-- arrival at a key whose depot is the overflow depot, or guarded by `can_depot_spawn_vehicle` -/
theorem limits_guarded {nw : Network} {u u' : DepotUsage} {arr : Veh} {dn vt : Nat} (hl : Limits nw u)
    (hnd : ∀ k, (side true (getK u' k)).Nodup)
    (h : GrowAt u u' arr (nw.depotIdxOf dn, vt))
    (hg : nw.depotIdxOf dn = nw.overflowDepot ∨ canDepotSpawn nw u dn vt = true) : Limits nw u' := by
  intro d hd
  obtain ⟨h1, h2⟩ := hl d hd
  by_cases ed : d = nw.depotIdxOf dn
  · subst ed
    have hle := cnt_grow hnd h
    obtain ⟨g1, g2⟩ := canSpawn_facts (hg.resolve_left hd)
    constructor
    · intro vt'
      have hc := hle vt'
      have hcap := h1 vt'
      split at hc
      · rename_i e
        subst e
        omega
      · omega
    · have := sum_le_sum nw.typeIdxs (fun vt' => cnt u _ vt') (fun vt' => cnt u' _ vt')
        (fun _ => 0) (fun x => if x = vt then 1 else 0) (fun vt' _ => hle vt')
      rw [sum_indicator, sum_zero] at this
      have hc := count_range_le nw.vtypes.size vt
      unfold Network.typeIdxs at this g2 ⊢
      omega
  · have hsame := cnt_other hnd h ed
    exact ⟨fun vt' => Nat.le_trans (hsame vt') (h1 vt'), Nat.le_trans (sum_mono _ _ _ (fun vt' _ => hsame vt')) h2⟩

theorem cnt_takeover {u u' : DepotUsage} {arr dep : Veh} {d0 vta vtd : Nat}
    (hnd : ∀ k, (side true (getK u' k)).Nodup) (h : GrowAt u u' arr (d0, vta))
    (hdep : dep ∈ side true (getK u (d0, vtd))) (hgone : ∀ k, dep ∉ side true (getK u' k)) (vt : Nat) :
    cnt u' d0 vt + (if vt = vtd then 1 else 0) ≤ cnt u d0 vt + (if vt = vta then 1 else 0) := by
  by_cases e1 : vt = vtd
  · rw [if_pos e1]
    subst e1
    unfold cnt
    by_cases e2 : vt = vta
    · rw [if_pos e2, Nat.add_le_add_iff_right]
      exact length_takeover _ _ arr dep (hnd _) hdep (hgone _) (fun x hx => (h _ x hx).imp id (·.1))
    · rw [if_neg e2, Nat.add_zero]
      exact length_left _ _ dep (hnd _) hdep (hgone _)
        (fun x hx => (h _ x hx).resolve_right (fun h' => e2 (Prod.mk.inj h'.2).2))
  · rw [if_neg e1, Nat.add_zero]
    exact cnt_grow hnd h vt

/-- arrival at a key of a depot another vehicle leaves in the same step (its start set lost `dep`):
    the same type — or another type whose per-type capacity has room -/
theorem limits_takeover {nw : Network} {u u' : DepotUsage} {arr dep : Veh} {d0 vta vtd : Nat} (hl : Limits nw u)
    (hnd : ∀ k, (side true (getK u' k)).Nodup)
    (h : GrowAt u u' arr (d0, vta))
    (hdep : dep ∈ side true (getK u (d0, vtd))) (hgone : ∀ k, dep ∉ side true (getK u' k))
    (hvtd : vtd < nw.vtypes.size)
    (hg : vtd = vta ∨ cnt u d0 vta < nw.capacityOf d0 vta) : Limits nw u' := by
  intro d hd
  obtain ⟨h1, h2⟩ := hl d hd
  by_cases ed : d = d0
  · subst ed
    have hle := cnt_takeover hnd h hdep hgone
    constructor
    · intro vt'
      have hc := hle vt'
      have hcap := h1 vt'
      by_cases e2 : vt' = vta
      · subst e2
        rw [if_pos rfl] at hc
        split at hc <;> omega
      · rw [if_neg e2] at hc
        split at hc <;> omega
    · have := sum_le_sum nw.typeIdxs (fun vt => cnt u d vt) (fun vt => cnt u' d vt)
        (fun x => if x = vtd then 1 else 0) (fun x => if x = vta then 1 else 0) (fun vt' _ => hle vt')
      rw [sum_indicator, sum_indicator] at this
      have hc1 := count_range_mem nw.vtypes.size vtd hvtd
      have hc2 := count_range_le nw.vtypes.size vta
      unfold Network.typeIdxs at this h2 ⊢
      omega
  · have hsame := cnt_other hnd h ed
    exact ⟨fun vt' => Nat.le_trans (hsame vt') (h1 vt'), Nat.le_trans (sum_mono _ _ _ (fun vt' _ => hsame vt')) h2⟩

theorem startU_iff {nw : Network} {t : Tour} {sd : Nat} :
    Transition.startDepotU nw t = .ok sd ↔ (t.nodes.head? = some sd ∧ (nw.node sd).isStartDepot = true) := by
  unfold Transition.startDepotU
  constructor
  · exact fun h => startDepot_eq_ok.mp (unwrapR_ok h)
  · intro h
    rw [startDepot_eq_ok.mpr h]
    rfl

theorem home_head {nw : Network} {V V' : List (Veh × Nat)} {T T' : Tours} {w : Veh} {t t' : Tour}
    (hV : assocGet? V' w = assocGet? V w) (ht : assocGet? T w = some t) (ht' : assocGet? T' w = some t')
    (hh : t'.nodes.head? = t.nodes.head?) (k : Nat × Nat) :
    Home nw V' T' true w k → Home nw V T true w k := by
  intro ⟨t1, vt, dn, h1, h2, h3, h4⟩
  rw [ht'] at h1; cases h1
  refine ⟨t, vt, dn, ht, by rw [← hV]; exact h2, ?_, h4⟩
  have h3 := startU_iff.mp h3
  rw [hh] at h3
  exact startU_iff.mpr h3

theorem home_key {nw : Network} {V : List (Veh × Nat)} {T : Tours} {w : Veh} {t : Tour} {vt : Nat} {k : Nat × Nat}
    (ht : assocGet? T w = some t) (hv : assocGet? V w = some vt) (h : Home nw V T true w k) :
    ∃ sd, t.nodes.head? = some sd ∧ (nw.node sd).isStartDepot = true ∧ k = (nw.depotIdxOf sd, vt) := by
  obtain ⟨t1, vt1, dn, h1, h2, h3, h4⟩ := h
  rw [ht] at h1; cases h1
  rw [hv] at h2; cases h2
  obtain ⟨g1, g2⟩ := startU_iff.mp h3
  exact ⟨dn, g1, g2, h4⟩

/-- everybody but `r` starts where it did or nowhere; `r` starts where it did, or under a new key
    `k0`, and that one arrival is accounted for -/
theorem arrival_limits {nw : Network} {V V' : List (Veh × Nat)} {T T' : Tours} {u u' : DepotUsage} {r : Veh}
    (hok : UsageOK nw V T u) (hok' : UsageOK nw V' T' u') (hl : Limits nw u)
    (hothers : ∀ k w, w ≠ r → w ∈ side true (getK u' k) → w ∈ side true (getK u k))
    (hnew : ∀ k0, Home nw V' T' true r k0 → ¬ Home nw V T true r k0 → GrowAt u u' r k0 → Limits nw u') :
    Limits nw u' := by
  by_cases hex : ∃ k, Home nw V' T' true r k ∧ ¬ Home nw V T true r k
  · obtain ⟨k0, hk0, hnot⟩ := hex
    refine hnew k0 hk0 hnot (fun k w hm => ?_)
    by_cases e : w = r
    · subst e
      exact Or.inr ⟨rfl, home_unique ((hok'.mem true k w).mp hm) hk0⟩
    · exact Or.inl (hothers k w e hm)
  · refine limits_shrink hl (hok'.nodup true) (fun k w hm => ?_)
    by_cases e : w = r
    · subst e
      rw [hok.mem]
      exact Classical.byContradiction (fun hn => hex ⟨k, (hok'.mem true k w).mp hm, hn⟩)
    · exact hothers k w e hm

/-- one vehicle changed: its new start is its old one, the overflow depot, or a depot with room -/
theorem single_limits {nw : Network} {V V' : List (Veh × Nat)} {T T' : Tours} {u u' : DepotUsage} {v : Veh}
    (hok : UsageOK nw V T u) (hok' : UsageOK nw V' T' u') (hl : Limits nw u)
    (hV : ∀ w, w ≠ v → assocGet? V' w = assocGet? V w) (hT : ∀ w, w ≠ v → assocGet? T' w = assocGet? T w)
    (hv : ∀ k, Home nw V' T' true v k → Home nw V T true v k ∨
      ∃ dn vt, k = (nw.depotIdxOf dn, vt) ∧ (nw.depotIdxOf dn = nw.overflowDepot ∨ canDepotSpawn nw u dn vt = true)) :
    Limits nw u' := by
  refine arrival_limits (r := v) hok hok' hl (fun k w hw hm => ?_) (fun k0 hk0 hnot hgrow => ?_)
  · rw [hok.mem]
    exact (home_congr (hV w hw) (hT w hw) true k).mp ((hok'.mem true k w).mp hm)
  · rcases hv k0 hk0 with h | ⟨dn, vt, rfl, hg⟩
    · exact absurd h hnot
    · exact limits_guarded hl (hok'.nodup true) hgrow hg

/-- a reassignment: the provider starts where it did if it still exists; the receiver starts where it
    did, or takes over the start of a provider that is gone — with its type, or with a type that has room -/
theorem pair_limits {nw : Network} {V V' : List (Veh × Nat)} {T T' : Tours} {u u' : DepotUsage} {p r : Veh}
    (hok : UsageOK nw V T u) (hok' : UsageOK nw V' T' u') (hl : Limits nw u)
    (hV : ∀ w, w ≠ p → w ≠ r → assocGet? V' w = assocGet? V w)
    (hT : ∀ w, w ≠ p → w ≠ r → assocGet? T' w = assocGet? T w)
    (hp : ∀ k, Home nw V' T' true p k → Home nw V T true p k)
    (hr : ∀ k, Home nw V' T' true r k → Home nw V T true r k ∨
      ((∀ k', ¬ Home nw V' T' true p k') ∧ ∃ d0 vtd vta, k = (d0, vta) ∧ Home nw V T true p (d0, vtd) ∧
        vtd < nw.vtypes.size ∧ (vtd = vta ∨ cnt u d0 vta < nw.capacityOf d0 vta))) :
    Limits nw u' := by
  refine arrival_limits (r := r) hok hok' hl (fun k w hw hm => ?_) (fun k0 hk0 hnot hgrow => ?_)
  · rw [hok.mem]
    by_cases e : w = p
    · subst e; exact hp k ((hok'.mem true k w).mp hm)
    · exact (home_congr (hV w e hw) (hT w e hw) true k).mp ((hok'.mem true k w).mp hm)
  · rcases hr k0 hk0 with h | ⟨hgone, d0, vtd, vta, rfl, hdep, hvtd, hg⟩
    · exact absurd h hnot
    · exact limits_takeover (dep := p) hl (hok'.nodup true) hgrow ((hok.mem true _ p).mpr hdep)
        (fun k hm => hgone k ((hok'.mem true k p).mp hm)) hvtd hg

theorem findBestStart_spec {nw : Network} {u : DepotUsage} {vt n d : Nat} (h : findBestStartDepot nw u vt n = .ok d) :
    canDepotSpawn nw u d vt = true := by
  unfold findBestStartDepot at h
  split at h
  · rename_i d' hf
    simp only [pure, Except.pure, Except.ok.injEq] at h
    subst h
    have := List.find?_some hf
    exact this
  · cases h

/-- `add_suitable_start_and_end_depot_to_path`: the first node of a result long enough to be a tour
    is the overflow depot's start node or a start depot with room -/
theorem addDepots_head {nw : Network} {s : Schedule} {vt : Nat} {path nodes : List Nat}
    (h : addSuitableDepots nw s vt path = .ok nodes) (hlen : 3 ≤ nodes.length) :
    ∃ dn, nodes[0]? = some dn ∧
      (dn = nw.startDepotNodeOf nw.overflowDepot ∨ canDepotSpawn nw s.depotUsage dn vt = true) := by
  obtain ⟨first, last, hfirst, -, ⟨-, -, rfl⟩ | ⟨pre, suf, rfl, hpre, -⟩⟩ := addSuitableDepots_ok h
  · refine ⟨_, ?_, Or.inl rfl⟩
    by_cases hl : (nw.node last).isDepot = true
    · rw [if_pos hl] at hlen ⊢
      rw [List.length_set, List.length_set] at hlen
      rw [List.getElem?_set_ne (by omega), List.getElem?_set_self (by omega)]
    · rw [if_neg hl] at hlen ⊢
      rw [List.length_append, List.length_set, List.length_singleton] at hlen
      rw [List.getElem?_append_left (by rw [List.length_set]; omega), List.getElem?_set_self (by omega)]
  · rcases hpre with ⟨-, hcs, rfl⟩ | ⟨-, d, hd, rfl⟩
    · refine ⟨first, ?_, Or.inr hcs⟩
      have hpos : 0 < path.length := List.length_pos_iff.mpr fun e => by rw [e] at hfirst; cases hfirst
      rw [List.nil_append, List.getElem?_append_left hpos, ← List.head?_eq_getElem?]
      exact hfirst
    · exact ⟨d, rfl, Or.inr (findBestStart_spec hd)⟩

/-- network hypothesis: the start node of the overflow depot belongs to the overflow depot
    (decidable; evaluated on every network of a run) -/
def OvfNode (nw : Network) : Prop := nw.depotIdxOf (nw.startDepotNodeOf nw.overflowDepot) = nw.overflowDepot

theorem spawn_depotLimits {nw : Network} (hovf : OvfNode nw) {s s' : Schedule} {vt : Nat} {path : List Nat} {v : Veh}
    (hu : UsageInv nw s) (hu' : UsageInv nw s') (hl : Limits nw s.depotUsage)
    (h : spawnVehicleForPath nw s vt path = .ok (s', v)) : Limits nw s'.depotUsage := by
  obtain ⟨r, rfl⟩ := spawnVehicleForPath_ok h
  refine single_limits (v := v) hu hu' hl (fun w hw => get_set_ne _ _ _ _ hw)
    (fun w hw => get_set_ne _ _ _ _ hw) (fun k hk => Or.inr ?_)
  obtain ⟨sd, hsd, -, rfl⟩ := home_key (get_set_self _ _ _) (get_set_self _ _ _) hk
  obtain ⟨_, _, -, -, -, -, hlen, -, -, hnodes⟩ := Tour.new_ok r.tour_eq
  obtain ⟨dn, hdn, hguard⟩ := addDepots_head r.nodes_eq hlen
  rw [hnodes, List.head?_eq_getElem?] at hsd
  obtain rfl : dn = sd := Option.some.inj (hdn.symm.trans hsd)
  exact ⟨dn, vt, rfl, hguard.imp (fun e => by rw [e]; exact hovf) id⟩

theorem tourOK_head {nw : Network} {t : Tour} (ht : TourOK nw t) :
    ∃ sd, t.nodes.head? = some sd ∧ (nw.node sd).isStartDepot = true := by
  obtain ⟨sd, mid, ed, hl, hsd, _⟩ := ht.shape
  exact ⟨sd, by rw [hl]; rfl, hsd⟩

theorem tail_not_start {nw : Network} {t : Tour} (ht : TourOK nw t) {k x : Nat} (hk : 1 ≤ k)
    (hx : x ∈ t.nodes.drop k) : (nw.node x).isStartDepot = false := by
  obtain ⟨sd, mid, ed, hl, -, hed, -, hmid⟩ := ht.shape
  obtain ⟨k', rfl⟩ : ∃ k', k = k' + 1 := ⟨k - 1, by omega⟩
  rw [hl, List.drop_succ_cons] at hx
  rcases List.mem_append.mp (List.mem_of_mem_drop hx) with hm | hm
  · have := hmid x hm
    unfold Node.isDepot at this
    exact (Bool.or_eq_false_iff.mp this).1
  · obtain rfl := List.mem_singleton.mp hm
    unfold Node.isStartDepot
    unfold Node.isEndDepot at hed
    rw [beq_iff_eq.mp hed]
    rfl

/-- removal from a valid real tour: what is left starts where the tour started; and what is taken
    out starts with a start depot only when nothing is left — then it starts with the tour's -/
theorem remove_heads {nw : Network} {t : Tour} {a b : Nat} {ot : Option Tour} {path : List Nat}
    (ht : TourOK nw t) (h : Tour.remove nw t a b = .ok (ot, path)) :
    (∀ t', ot = some t' → t'.nodes.head? = t.nodes.head?) ∧
    (∀ x, path.head? = some x → (nw.node x).isStartDepot = true → ot = none ∧ path.head? = t.nodes.head?) := by
  obtain ⟨s, e, -, -, hse, -, hpath, hsome⟩ := remove_positions h
  -- what is left when the piece begins at the first node is no tour: it would begin behind the start depot
  have hleft : ∀ t', ot = some t' → s ≠ 0 := by
    intro t' ht' h0
    subst ht' h0
    obtain ⟨sd, hsd, hsdD⟩ := tourOK_head (remove_tourOK nw t t' a b path ht h)
    rw [hsome t' rfl] at hsd
    rw [tail_not_start ht (Nat.succ_pos e) (List.mem_of_mem_head? hsd)] at hsdD
    cases hsdD
  constructor
  · intro t' ht'
    obtain ⟨sd, hsd, -⟩ := tourOK_head ht
    rw [hsome t' ht', List.head?_append, List.head?_take, if_neg (hleft t' ht'), hsd]
    rfl
  · intro x hx hxs
    have h0 : s = 0 := by
      -- the piece would lie behind the start depot, where there is no start depot
      apply Decidable.byContradiction
      intro h0
      have hxin : x ∈ t.nodes.drop s := List.mem_of_mem_take (hpath ▸ List.mem_of_mem_head? hx)
      rw [tail_not_start ht (by omega) hxin] at hxs
      cases hxs
    subst h0
    constructor
    · cases ot with
      | none => rfl
      | some t' => exact absurd rfl (hleft t' rfl)
    · rw [hpath, List.head?_take, if_neg (by omega)]
      rfl

/-- `insert_path` into a valid real tour: the result starts where the tour started, or with the
    first node of the path -/
theorem insert_head (nw : Network) (hd : C17.DepotTimes nw) (hw : NodesWF' nw) (t t' : Tour) (path : List Nat)
    (rm : Option (List Nat)) (ht : TourOK nw t) {x : Nat} (hph : path.head? = some x)
    (h : insertPath nw true t path = .ok (t', rm)) :
    t'.nodes.head? = t.nodes.head? ∨ t'.nodes.head? = some x := by
  have hc := C12.timeChain_of_chainB nw hd t.nodes ht.chain
  have hne : 0 < t.nodes.length := by have := shape_len ht.shape; omega
  obtain ⟨hnodes, -, -, -⟩ := insertPath_ref nw hd hw hc hne h
  rw [hnodes, ht.real]
  unfold insertRef stripForDummy
  simp only [Bool.not_false, ↓reduceIte]
  generalize (if (nw.node (path.headD 0)).isDepot = true then 0 else keepPrefixLen nw t.nodes (path.headD 0)) = k
  generalize (if (nw.node (path.getLastD 0)).isDepot = true then t.nodes.length
    else keepSuffixStart nw t.nodes (path.getLastD 0)) = m
  rw [List.append_assoc, List.head?_append]
  by_cases hk : k = 0
  · subst hk
    right
    cases path with
    | nil => cases hph
    | cons a as => exact hph
  · left
    obtain ⟨sd, hsd, -⟩ := tourOK_head ht
    rw [List.head?_take, if_neg hk, hsd]
    rfl

theorem remove_head_some {nw : Network} {t t' : Tour} {a b : Nat} {path : List Nat}
    (ht : TourOK nw t) (h : Tour.remove nw t a b = .ok (some t', path)) : t'.nodes.head? = t.nodes.head? :=
  (remove_heads ht h).1 _ rfl

theorem delete_depotLimits {nw : Network} {s s' : Schedule} {v : Veh}
    (hu : UsageInv nw s) (hu' : UsageInv nw s') (hl : Limits nw s.depotUsage)
    (h : replaceVehicleByDummy nw s v = .ok s') : Limits nw s'.depotUsage := by
  obtain ⟨_, rfl⟩ := replaceVehicleByDummy_ok h
  refine single_limits (v := v) hu hu' hl (fun w hw => get_erase_ne _ _ _ hw)
    (fun w hw => get_erase_ne _ _ _ hw) (fun k hk => ?_)
  obtain ⟨vt, hvt⟩ := home_typed hk
  cases (get_erase_self s.vehicles v).symm.trans hvt

theorem rmSeg_depotLimits {nw : Network} {s s' : Schedule} {v : Veh} {a b : Nat}
    (hi : ListInv s) (hd : DummyInv s) (ho : ToursOK nw s.tours)
    (hu : UsageInv nw s) (hu' : UsageInv nw s') (hl : Limits nw s.depotUsage)
    (h : removeSegment nw s v a b = .ok s') : Limits nw s'.depotUsage := by
  obtain ⟨tour, shrunk, _, hv, htour, hrem, h⟩ := removeSegment_ok h
  cases shrunk with
  | none => exact delete_depotLimits hu hu' hl h
  | some newTour =>
    obtain ⟨r, rfl⟩ := h
    have htours : r.tours = assocSet s.tours v newTour := utc_vehicle hi hd hv r.tours_eq
    rw [htours] at hu'
    rw [(tourOf_vehicle hi hv).1] at htour
    refine single_limits (v := v) hu hu' hl (fun w _ => rfl) (fun w hw => get_set_ne _ _ _ _ hw)
      (fun k hk => Or.inl ?_)
    exact home_head rfl htour (get_set_self _ _ _) (remove_head_some (ho v _ htour) hrem) k hk

theorem addPath_depotLimits {nw : Network} (hn : NetHyp nw) {s s' : Schedule} {v : Veh} {path : List Nat}
    {rm : Option (List Nat)} (ho : ToursOK nw s.tours)
    (hu : UsageInv nw s) (hu' : UsageInv nw s') (hl : Limits nw s.depotUsage)
    (h : addPathToVehicleTour nw s v path = .ok (s', rm)) : Limits nw s'.depotUsage := by
  obtain ⟨r, rfl⟩ := addPathToVehicleTour_ok h
  have hph : path.head? = some r.first := by rw [List.head?_eq_getElem?]; exact r.first_eq
  refine single_limits (v := v) hu hu' hl (fun w _ => rfl) (fun w hw => get_set_ne _ _ _ _ hw) (fun k hk => ?_)
  have hnew := get_set_self s.tours v r.newTour
  obtain ⟨vt, hvt⟩ := home_typed hk
  obtain ⟨sd, hsd, hsdD, rfl⟩ := home_key hnew hvt hk
  rcases insert_head nw hn.dt hn.wf r.old r.newTour path rm (ho v r.old r.old_eq) hph r.insert_eq with hh | hh
  · exact Or.inl (home_head rfl r.old_eq hnew hh _ hk)
  · -- the new tour starts with the first node of the path, a start depot: the guard of the operation applies
    rw [hh] at hsd
    obtain rfl : r.first = sd := Option.some.inj hsd
    have hdep : (nw.node r.first).isDepot = true := by unfold Node.isDepot; simp [hsdD]
    obtain ⟨t, oldStart, ht, hos, hor⟩ := r.guard hdep
    obtain rfl : t = r.old := Option.some.inj ((tourOf_of_hasTour ht (by rw [r.old_eq]; rfl)).symm.trans r.old_eq)
    rcases hor with rfl | ⟨vt', hvt', hc⟩
    · exact Or.inl (home_head rfl r.old_eq hnew (by rw [hh, (startU_iff.mp hos).1]) _ hk)
    · obtain rfl : vt' = vt := Option.some.inj (hvt'.symm.trans hvt)
      exact Or.inr ⟨r.first, vt', rfl, Or.inr hc⟩

theorem dummySpawn_depotLimits {nw : Network} (hovf : OvfNode nw) {s s' : Schedule} {d : Veh} {vt : Nat} {v : Veh}
    (hu : UsageInv nw s) (hu' : UsageInv nw s') (hl : Limits nw s.depotUsage)
    (h : spawnToReplaceDummy nw s d vt = .ok (s', v)) : Limits nw s'.depotUsage := by
  obtain ⟨_, s1, -, -, hdel, hspawn⟩ := spawnToReplaceDummy_ok h
  obtain ⟨-, -, rfl⟩ := deleteDummy_ok hdel
  refine spawn_depotLimits hovf ?_ hu' ?_ hspawn
  · exact hu
  · exact hl

theorem slice_at_head {t : Tour} {a s n : Nat} (hs : t.positionOf a = .ok s) (hn : 0 < n) :
    ((t.nodes.drop s).take n).head? = some a := by
  rw [List.head?_take, if_neg (by omega), List.head?_drop]
  exact positionOf_get hs

theorem remove_path_head {nw : Network} {t : Tour} {a b : Nat} {ot : Option Tour} {path : List Nat}
    (h : Tour.remove nw t a b = .ok (ot, path)) : path.head? = some a := by
  obtain ⟨s, e, hs, _, hse, _, hpath, _⟩ := remove_positions h
  rw [hpath]
  exact slice_at_head hs (by omega)

theorem handover_head {nw : Network} (hn : NetHyp nw) {pc r r' : Tour} {provCand : Option Tour}
    {pathIns : List Nat} {rm : Option (List Nat)} {start segEnd : Nat}
    (hr : TourOK nw r) (hr' : TourOK nw r')
    (hrem : Tour.remove nw pc start segEnd = .ok (provCand, pathIns))
    (hins : insertPath nw true r pathIns = .ok (r', rm)) :
    r'.nodes.head? = r.nodes.head? ∨ (r'.nodes.head? = some start ∧ (nw.node start).isStartDepot = true) := by
  rcases insert_head nw hn.dt hn.wf r r' pathIns rm hr (remove_path_head hrem) hins with h | h
  · exact Or.inl h
  · obtain ⟨sd, hsd, hsdD⟩ := tourOK_head hr'
    rw [h] at hsd
    cases hsd
    exact Or.inr ⟨h, hsdD⟩

theorem handover_real {nw : Network} (hn : NetHyp nw) {pc r r' : Tour} {provCand : Option Tour}
    {pathIns : List Nat} {rm : Option (List Nat)} {start segEnd : Nat}
    (hpc : TourOK nw pc) (hr : TourOK nw r)
    (hrem : Tour.remove nw pc start segEnd = .ok (provCand, pathIns))
    (hins : insertPath nw true r pathIns = .ok (r', rm)) :
    TourOK nw r' ∧ (∀ t', provCand = some t' → TourOK nw t' ∧ t'.nodes.head? = pc.nodes.head?) ∧
    (r'.nodes.head? = r.nodes.head? ∨
      (provCand = none ∧ r'.nodes.head? = pc.nodes.head? ∧ pc.nodes.head? = some start)) := by
  have hfacts := (provPred_real hn).facts pc start segEnd provCand pathIns hpc hrem
  have hr' := insert_tourOK nw hn.dt hn.wf r r' pathIns rm hr
    (pathOK_of_facts (chk := false) hfacts (by simp) (Or.inl rfl)) hins
  obtain ⟨g1, g2⟩ := remove_heads hpc hrem
  refine ⟨hr', fun t' ht' => ⟨?_, g1 t' ht'⟩, ?_⟩
  · subst ht'; exact remove_tourOK nw pc t' start segEnd pathIns hpc hrem
  · rcases handover_head hn hr hr' hrem hins with h | ⟨h, hsd⟩
    · exact Or.inl h
    · have hph := remove_path_head hrem
      obtain ⟨k1, k2⟩ := g2 start hph hsd
      exact Or.inr ⟨k1, h.trans (hph.symm.trans k2), k2.symm.trans hph⟩

theorem handover_dummy {nw : Network} (hn : NetHyp nw) {pc r r' : Tour} {provCand : Option Tour}
    {pathIns : List Nat} {rm : Option (List Nat)} {start segEnd : Nat}
    (hpc : DummyOK nw pc) (hr : TourOK nw r)
    (hrem : Tour.remove nw pc start segEnd = .ok (provCand, pathIns))
    (hck : ¬(true && !(Tour.isChain nw pathIns)) = true)
    (hins : insertPath nw true r pathIns = .ok (r', rm)) :
    TourOK nw r' ∧ (∀ t', provCand = some t' → DummyOK nw t') ∧ r'.nodes.head? = r.nodes.head? := by
  have hfacts := (provPred_dummy hn).facts pc start segEnd provCand pathIns hpc hrem
  have hr' := insert_tourOK nw hn.dt hn.wf r r' pathIns rm hr (pathOK_of_facts hfacts hck (Or.inr rfl)) hins
  refine ⟨hr', fun t' ht' => ?_, ?_⟩
  · subst ht'; exact (provPred_dummy hn).rem pc start segEnd t' pathIns hpc hrem
  · rcases handover_head hn hr hr' hrem hins with h | ⟨-, hsd⟩
    · exact h
    · -- a dummy tour holds no depot
      obtain ⟨s0, e0, _, _, hsp, _, _⟩ := remove_split hrem
      have hin : start ∈ pc.nodes := by
        rw [hsp]; simp [List.mem_of_mem_head? (remove_path_head hrem)]
      have := hpc.acts start hin
      unfold Node.isDepot at this
      rw [(Bool.or_eq_false_iff.mp this).1] at hsd
      cases hsd

/-- the loop of `fit_path_into_tour`, as an invariant rule over (provider, receiver, remaining path) -/
theorem fitLoop_rule (nw : Network) (chk : Bool) (I : Option Tour → Tour → Option (List Nat) → Prop)
    (hskip : ∀ prov recv path k, I prov recv (some path) → I prov recv (pathTrusted nw (path.drop (k + 1))))
    (hstep : ∀ pc r path endPos start segEnd provCand pathIns r' rm, I (some pc) r (some path) →
      path[0]? = some start → path[endPos]? = some segEnd →
      Tour.remove nw pc start segEnd = .ok (provCand, pathIns) →
      ¬(chk && !(Tour.isChain nw pathIns)) = true →
      Tour.conflict nw true r start segEnd = .ok none → insertPath nw true r pathIns = .ok (r', rm) →
      I provCand r' (pathTrusted nw (path.drop (endPos + 1)))) :
    ∀ (fuel : Nat) (prov : Option Tour) (recv : Tour) (rem : Option (List Nat)) (moved : List Nat)
      (np : Option Tour) (nr : Tour) (mv : List Nat),
      fitLoop nw chk fuel prov recv rem moved = .ok (np, nr, mv) → I prov recv rem → ∃ rem', I np nr rem' :=
  fun fuel prov recv rem moved np nr mv h hI =>
    fitLoop_induct (I := fun prov recv rem _ => I prov recv rem) (fun prov recv path _ => hskip prov recv path)
      (fun pc r path _ => hstep pc r path) fuel prov recv rem moved np nr mv hI h

theorem slice_head {l : List Nat} (hnd : l.Nodup) {s n x : Nat} (hx : l.head? = some x)
    (hin : x ∈ (l.drop s).take n) : ((l.drop s).take n).head? = some x := by
  obtain ⟨i, hi⟩ := List.mem_iff_getElem?.mp hin
  rw [List.getElem?_take] at hi
  split at hi
  · rename_i hlt
    rw [List.getElem?_drop] at hi
    have h0 : l[0]? = some x := by rw [← List.head?_eq_getElem?]; exact hx
    have := nodup_idx_inj hnd h0 hi
    have hs : s = 0 := by omega
    subst hs
    rw [List.head?_take, if_neg (by omega)]
    simpa using hx
  · cases hi

theorem drop_of_trusted {nw : Network} {path0 path p' : List Nat} {k0 k : Nat} (hp : path = path0.drop k0)
    (h : pathTrusted nw (path.drop (k + 1)) = some p') : ∃ k', p' = path0.drop k' := by
  have := pathTrusted_some h
  subst this
  exact ⟨k0 + (k + 1), by rw [hp, List.drop_drop]⟩

theorem fitLoop_heads_dummy {nw : Network} (hn : NetHyp nw) {pt rt nr : Tour} {fuel : Nat} {rem : Option (List Nat)}
    {moved mv : List Nat} {np : Option Tour} (hpt : DummyOK nw pt) (hrt : TourOK nw rt)
    (hloop : fitLoop nw true fuel (some pt) rt rem moved = .ok (np, nr, mv)) :
    nr.nodes.head? = rt.nodes.head? := by
  obtain ⟨_, _, _, g⟩ := fitLoop_rule nw true
    (fun prov recv _ => (∀ pc, prov = some pc → DummyOK nw pc) ∧ TourOK nw recv ∧ recv.nodes.head? = rt.nodes.head?)
    (fun _ _ _ _ hI => hI)
    (fun pc r0 _ _ _ _ _ _ _ _ hI _ _ hrem hck _ hins => by
      obtain ⟨i1, i2, i3⟩ := hI
      obtain ⟨hr', hprov, hh⟩ := handover_dummy hn (i1 pc rfl) i2 hrem hck hins
      exact ⟨hprov, hr', hh.trans i3⟩)
    _ _ _ _ _ _ _ _ hloop ⟨fun pc e => by cases e; exact hpt, hrt, rfl⟩
  exact g

theorem fitLoop_heads_real {nw : Network} (hn : NetHyp nw) {pt rt nr : Tour} {fuel : Nat} {path moved mv : List Nat}
    {np : Option Tour} (hpt : TourOK nw pt) (hrt : TourOK nw rt)
    (hloop : fitLoop nw false fuel (some pt) rt (some path) moved = .ok (np, nr, mv)) :
    nr.nodes.head? = rt.nodes.head? ∨
      (np = none ∧ nr.nodes.head? = pt.nodes.head? ∧ ∃ x, pt.nodes.head? = some x ∧ x ∈ path) := by
  obtain ⟨_, -, -, -, g⟩ := fitLoop_rule nw false
    (fun prov recv rem => (∀ pc, prov = some pc → TourOK nw pc ∧ pc.nodes.head? = pt.nodes.head?) ∧
      TourOK nw recv ∧ (∀ pa, rem = some pa → ∃ k, pa = path.drop k) ∧
      (recv.nodes.head? = rt.nodes.head? ∨
        (prov = none ∧ recv.nodes.head? = pt.nodes.head? ∧ ∃ x, pt.nodes.head? = some x ∧ x ∈ path)))
    (fun prov recv path' k hI => by
      obtain ⟨i1, i2, i3, i4⟩ := hI
      obtain ⟨k0, hk0⟩ := i3 path' rfl
      exact ⟨i1, i2, fun pa hpa => drop_of_trusted hk0 hpa, i4⟩)
    (fun pc r0 path' endPos start segEnd provCand pathIns r' rm hI hstart _ hrem _ _ hins => by
      obtain ⟨i1, i2, i3, i4⟩ := hI
      obtain ⟨hpcok, hpch⟩ := i1 pc rfl
      obtain ⟨k0, hk0⟩ := i3 path' rfl
      obtain ⟨hr', s1, s2⟩ := handover_real hn hpcok i2 hrem hins
      refine ⟨fun t' ht' => ⟨(s1 t' ht').1, (s1 t' ht').2.trans hpch⟩, hr',
        fun pa hpa => drop_of_trusted hk0 hpa, ?_⟩
      rcases s2 with e | ⟨e1, e2, e3⟩
      · rcases i4 with i | ⟨i, _⟩
        · exact Or.inl (e.trans i)
        · cases i
      · have hin : start ∈ path' := List.mem_of_getElem? hstart
        rw [hk0] at hin
        exact Or.inr ⟨e1, e2.trans hpch, start, hpch.symm.trans e3, List.mem_of_mem_drop hin⟩)
    _ _ _ _ _ _ _ _ hloop
    ⟨fun pc e => by cases e; exact ⟨hpt, rfl⟩, hrt, fun pa e => by cases e; exact ⟨0, rfl⟩, Or.inl rfl⟩
  exact g

theorem fitLoop_prov_head {nw : Network} {pt rt nr : Tour} {chk : Bool} {fuel : Nat} {rem : Option (List Nat)}
    {moved mv : List Nat} {np : Option Tour} (hpt : TourOK nw pt)
    (hloop : fitLoop nw chk fuel (some pt) rt rem moved = .ok (np, nr, mv)) :
    ∀ t, np = some t → t.nodes.head? = pt.nodes.head? := by
  obtain ⟨_, g⟩ := fitLoop_rule nw chk
    (fun prov _ _ => ∀ pc, prov = some pc → TourOK nw pc ∧ pc.nodes.head? = pt.nodes.head?)
    (fun _ _ _ _ hI => hI)
    (fun pc _ _ _ start segEnd _ pathIns _ _ hI _ _ hrem _ _ _ t' ht' => by
      subst ht'
      obtain ⟨hpc, hh⟩ := hI pc rfl
      exact ⟨remove_tourOK nw pc t' start segEnd pathIns hpc hrem, (remove_head_some hpc hrem).trans hh⟩)
    _ _ _ _ _ _ _ _ hloop (fun pc e => by cases e; exact ⟨hpt, rfl⟩)
  exact fun t ht => (g t ht).2

/-- provider and receiver of `fit_reassign` afterwards: a real provider that still exists starts where
    it did; a real receiver starts where it did — or, when the provider's whole tour with its start
    depot went over, where the provider started (the moved path then begins with that depot) -/
theorem fit_heads {nw : Network} (hn : NetHyp nw) {s : Schedule} {p r : Veh} {a b : Nat} {pt rt : Tour}
    {path moved : List Nat} {newProv : Option Tour} {newRecv : Tour}
    (hi : ListInv s) (hd : DummyInv s) (ho : ToursOK nw s.tours) (hdo : DummiesOK nw s.dummyTours)
    (hpt : s.tourOf? p = some pt) (hrt : s.tourOf? r = some rt)
    (hsub : Tour.subPath nw pt a b = .ok path)
    (hloop : fitLoop nw (s.isDummy p && s.isVehicle r) (path.length + 1) (some pt) rt (some path) []
      = .ok (newProv, newRecv, moved)) :
    (s.isDummy p = false → ∀ t, newProv = some t → t.nodes.head? = pt.nodes.head?) ∧
    (s.isVehicle r = true → newRecv.nodes.head? = rt.nodes.head? ∨
      (newProv = none ∧ s.isDummy p = false ∧ newRecv.nodes.head? = pt.nodes.head? ∧
        path.head? = pt.nodes.head?)) := by
  obtain ⟨s0, e0, -, -, -, -, hpath⟩ := subPath_ok hsub
  have hrtok : s.isVehicle r = true → TourOK nw rt := fun hrv =>
    ho r rt (tourOf_not_dummy hrt (vehicle_not_dummy hi hd hrv))
  by_cases hpd : s.isDummy p = true
  · refine ⟨fun h => bool_contra hpd h, fun hrv => Or.inl ?_⟩
    rw [hpd, hrv] at hloop
    exact fitLoop_heads_dummy hn (hdo p pt (tourOf_dummy hi hd hpt hpd)) (hrtok hrv) hloop
  · have hpd' : s.isDummy p = false := by simpa using hpd
    have hptok := ho p pt (tourOf_not_dummy hpt hpd')
    refine ⟨fun _ => fitLoop_prov_head hptok hloop, fun hrv => ?_⟩
    rw [hpd'] at hloop
    refine (fitLoop_heads_real hn hptok (hrtok hrv) hloop).imp id (fun ⟨e1, e2, x, hx, hxin⟩ => ⟨e1, hpd', e2, ?_⟩)
    rw [hpath] at hxin ⊢
    rw [slice_head (tourOK_nodup hn.dt hn.wf hn.ap hptok) hx hxin, hx]

/-- the guard of finding F10 in `check_receiver_type_compatibility`: between different types a path that
    begins with a start depot other than the receiver's is accepted only if the receiver's type has room there -/
theorem compat_guard {nw : Network} {s : Schedule} {p r : Veh} {a b : Nat}
    (h : checkReceiverTypeCompat nw s p r a b = .ok true) {rvt pvt : Nat}
    (hr : s.typeOf? r = some rvt) (hp : s.typeOf? p = some pvt) (hne : pvt ≠ rvt)
    {pt rt : Tour} (hpt : s.tourOf? p = some pt) (hrt : s.tourOf? r = some rt) :
    ∃ path0, Tour.subPath nw pt a b = .ok path0 ∧ ∀ first, path0.head? = some first →
      (nw.node first).isStartDepot = true → rt.nodes.head? ≠ some first →
      cnt s.depotUsage (nw.depotIdxOf first) rvt < nw.capacityOf (nw.depotIdxOf first) rvt := by
  rcases checkReceiverTypeCompat_ok h hr with hsame | ⟨pt', path0, f, hpt', hsub, -, hf, hroom⟩
  · rw [hp] at hsame
    exact absurd (Option.some.inj hsame) hne
  rw [hpt] at hpt'
  cases hpt'
  refine ⟨path0, hsub, fun first hfirst hsd hneq => ?_⟩
  rw [List.head?_eq_getElem?, hf] at hfirst
  obtain rfl : first = f := (Option.some.inj hfirst).symm
  obtain ⟨rt', hrt', hd | hc⟩ := hroom hsd
  · rw [hrt] at hrt'
    cases hrt'
    exact absurd (startDepot_eq_ok.mp hd).1 hneq
  · exact hc

/-- provider and receiver of `override_reassign` afterwards (same statement as `fit_heads`) -/
theorem override_heads {nw : Network} (hn : NetHyp nw) {s : Schedule} {p r : Veh} {a b : Nat} {pt rt : Tour}
    {shrunk : Option Tour} {path : List Nat} {ins : Tour × Option (List Nat)}
    (hi : ListInv s) (hd : DummyInv s) (ho : ToursOK nw s.tours) (hdo : DummiesOK nw s.dummyTours)
    (hpt : s.tourOf? p = some pt) (hrt : s.tourOf? r = some rt)
    (hrem : Tour.remove nw pt a b = .ok (shrunk, path))
    (hchk : ¬(s.isDummy p && s.isVehicle r && !(Tour.isChain nw path)) = true)
    (hins : insertPath nw true rt path = .ok ins) :
    (s.isDummy p = false → ∀ t, shrunk = some t → t.nodes.head? = pt.nodes.head?) ∧
    (s.isVehicle r = true → ins.1.nodes.head? = rt.nodes.head? ∨
      (shrunk = none ∧ s.isDummy p = false ∧ ins.1.nodes.head? = pt.nodes.head? ∧
        path.head? = pt.nodes.head?)) := by
  obtain ⟨newRecv, replaced⟩ := ins
  have hrtok : s.isVehicle r = true → TourOK nw rt := fun hrv =>
    ho r rt (tourOf_not_dummy hrt (vehicle_not_dummy hi hd hrv))
  by_cases hpd : s.isDummy p = true
  · refine ⟨fun h => bool_contra hpd h, fun hrv => ?_⟩
    have hck : ¬(true && !(Tour.isChain nw path)) = true := by simpa [hpd, hrv] using hchk
    exact Or.inl (handover_dummy hn (hdo p pt (tourOf_dummy hi hd hpt hpd)) (hrtok hrv) hrem hck hins).2.2
  · have hpd' : s.isDummy p = false := by simpa using hpd
    have hptok := ho p pt (tourOf_not_dummy hpt hpd')
    refine ⟨fun _ t ht => by subst ht; exact remove_head_some hptok hrem, fun hrv => ?_⟩
    rcases (handover_real hn hptok (hrtok hrv) hrem hins).2.2 with e | ⟨e1, e2, e3⟩
    · exact Or.inl e
    · exact Or.inr ⟨e1, hpd', e2, by rw [remove_path_head hrem, e3]⟩

/-- the vehicle map after the provider's part of `update_tours` -/
def provVehicles (s : Schedule) (p : Veh) (newProv : Option Tour) : List (Veh × Nat) :=
  match newProv with
  | some _ => s.vehicles
  | none => if s.isDummy p then s.vehicles else if s.isVehicle p then assocErase s.vehicles p else s.vehicles

theorem updateTours_vehicles {nw : Network} {s : Schedule} {w' : Work} {p r : Veh} {newProv : Option Tour}
    {newRecv : Tour} {moved : List Nat}
    (h : updateTours nw s (Work.ofSchedule s) (some p) newProv r newRecv moved = .ok w') :
    w'.vehicles = provVehicles s p newProv := by
  obtain ⟨w0, _, _, _, _, _, _, _, hprov, -, -, -, -, rfl⟩ := updateTours_ok h
  unfold provVehicles
  cases hprov with
  | shrunk _ => rfl
  | dummyGone _ hd _ => rw [if_pos hd]; rfl
  | vehicleGone _ hd hv _ _ => rw [if_neg (Bool.eq_false_iff.mp hd), if_pos hv]; rfl
  | absent hd hv => rw [if_neg (Bool.eq_false_iff.mp hd), if_neg (Bool.eq_false_iff.mp hv)]; rfl

section
variable {nw : Network} {s : Schedule} {w' : Work} {p r : Veh} {newProv : Option Tour} {newRecv : Tour}
  {moved : List Nat} (hut : updateTours nw s (Work.ofSchedule s) (some p) newProv r newRecv moved = .ok w')
include hut

theorem updateTours_tours_ne (w : Veh) (hp : w ≠ p) (hr : w ≠ r) : assocGet? w'.tours w = assocGet? s.tours w := by
  obtain ⟨w0, _, tours, _, _, _, _, _, hprov, -, hrecv, -, -, rfl⟩ := updateTours_ok hut
  refine (utc_tours_ne hrecv w hr).trans ?_
  cases hprov with
  | shrunk hshrunk => exact utc_tours_ne hshrunk w hp
  | vehicleGone _ _ _ _ _ => exact get_erase_ne _ _ _ hp
  | dummyGone _ _ _ | absent _ _ => rfl

theorem updateTours_vehicles_ne (w : Veh) (hp : w ≠ p) : assocGet? w'.vehicles w = assocGet? s.vehicles w := by
  obtain ⟨w0, _, _, _, _, _, _, _, hprov, -, -, -, -, rfl⟩ := updateTours_ok hut
  cases hprov with
  | vehicleGone _ _ _ _ _ => exact get_erase_ne _ _ _ hp
  | shrunk _ | dummyGone _ _ _ | absent _ _ => rfl

theorem updateTours_typed {w : Veh} {vt : Nat} (h : assocGet? w'.vehicles w = some vt) :
    assocGet? s.vehicles w = some vt := by
  obtain ⟨w0, _, _, _, _, _, _, _, hprov, -, -, -, -, rfl⟩ := updateTours_ok hut
  cases hprov with
  | vehicleGone _ _ _ _ _ =>
    rw [assocGet?_assocErase] at h
    split at h
    · cases h
    · exact h
  | shrunk _ | dummyGone _ _ _ | absent _ _ => exact h

theorem updateTours_recv (hrd : s.isDummy r = false) : assocGet? w'.tours r = some newRecv := by
  rw [(updateTours_spec hut).1, hrd, if_neg Bool.false_ne_true]
  exact get_set_self _ _ _

theorem updateTours_prov (hne : p ≠ r) (hpd : s.isDummy p = false) (hp : s.isVehicle p = true) :
    assocGet? w'.tours p = newProv ∧ (newProv = none → assocGet? w'.vehicles p = none) := by
  have hprov : assocGet? (provTours s p newProv) p = newProv := by
    unfold provTours
    rw [hpd, if_neg Bool.false_ne_true]
    cases newProv with
    | some t => exact get_set_self _ _ _
    | none =>
      dsimp only
      rw [if_pos hp]
      exact get_erase_self _ _
  constructor
  · rw [(updateTours_spec hut).1]
    split
    · exact hprov
    · rw [get_set_ne _ _ _ _ hne]
      exact hprov
  · intro e
    rw [updateTours_vehicles hut, e, provVehicles, hpd, if_neg Bool.false_ne_true, if_pos hp]
    exact get_erase_self _ _

end

/-- the type keys of the per-type id lists are vehicle types of the network -/
def IdsIn (nw : Network) (s : Schedule) : Prop :=
  ∀ vt, (assocGet? s.idsByType vt).isSome = true → vt < nw.vtypes.size

/-- … so every vehicle has one of the network's types, and a sum over those types misses no vehicle -/
theorem type_lt {nw : Network} {s : Schedule} (hi : ListInv s) (hK : IdsIn nw s) {v : Veh} {vt : Nat}
    (hv : assocGet? s.vehicles v = some vt) : vt < nw.vtypes.size := by
  obtain ⟨l, hl, -⟩ := hi.complete v vt hv
  have hl' : assocGet? s.idsByType vt = some l := hl
  exact hK vt (by rw [hl']; rfl)

/-- a reassignment keeps the depot limits, given where provider and receiver start afterwards -/
theorem reassign_limits {nw : Network} {s : Schedule} {w' : Work} {p r : Veh} {newProv : Option Tour}
    {newRecv : Tour} {moved path0 : List Nat} {pt rt : Tour}
    (hi : ListInv s) (hd : DummyInv s) (ho : ToursOK nw s.tours) (hK : IdsIn nw s)
    (hu : UsageInv nw s) (hu' : UsageOK nw w'.vehicles w'.tours w'.usage) (hl : Limits nw s.depotUsage) (hne : p ≠ r)
    (hpt : s.tourOf? p = some pt) (hrt : s.tourOf? r = some rt)
    (hA : s.isDummy p = false → ∀ t, newProv = some t → t.nodes.head? = pt.nodes.head?)
    (hB : s.isVehicle r = true → newRecv.nodes.head? = rt.nodes.head? ∨
      (newProv = none ∧ s.isDummy p = false ∧ newRecv.nodes.head? = pt.nodes.head? ∧ path0.head? = pt.nodes.head?))
    (hC : ∀ rvt pvt, s.typeOf? r = some rvt → s.typeOf? p = some pvt → pvt ≠ rvt →
      ∀ first, path0.head? = some first → (nw.node first).isStartDepot = true → rt.nodes.head? ≠ some first →
      cnt s.depotUsage (nw.depotIdxOf first) rvt < nw.capacityOf (nw.depotIdxOf first) rvt)
    (hut : updateTours nw s (Work.ofSchedule s) (some p) newProv r newRecv moved = .ok w') :
    Limits nw w'.usage := by
  have hrp : r ≠ p := fun e => hne e.symm
  refine pair_limits (p := p) (r := r) hu hu' hl (fun w hwp _ => updateTours_vehicles_ne hut w hwp)
    (updateTours_tours_ne hut) (fun k hk => ?_) (fun k hk => ?_)
  · -- a provider that is a vehicle afterwards was one before and kept a tour, which starts as the old one did
    obtain ⟨vt, hvt'⟩ := home_typed hk
    have hvt := updateTours_typed hut hvt'
    have hpv := typed_isVehicle hvt
    have hpd := vehicle_not_dummy hi hd hpv
    obtain ⟨hnew, hgone⟩ := updateTours_prov hut hne hpd hpv
    cases newProv with
    | none =>
      rw [hgone rfl] at hvt'
      cases hvt'
    | some t => exact home_head (hvt'.trans hvt.symm) (tourOf_not_dummy hpt hpd) hnew (hA hpd t rfl) k hk
  · obtain ⟨vt, hvt'⟩ := home_typed hk
    have hVr := updateTours_vehicles_ne hut r hrp
    have hvt : assocGet? s.vehicles r = some vt := hVr ▸ hvt'
    have hrv := typed_isVehicle hvt
    have hrd := vehicle_not_dummy hi hd hrv
    have hnew := updateTours_recv hut hrd
    have hsameStart : newRecv.nodes.head? = rt.nodes.head? → Home nw s.vehicles s.tours true r k :=
      fun hh => home_head hVr (tourOf_not_dummy hrt hrd) hnew hh k hk
    rcases hB hrv with hh | ⟨rfl, hpd, hrecvHead, hpathHead⟩
    · exact Or.inl (hsameStart hh)
    by_cases hsame : rt.nodes.head? = pt.nodes.head?
    · exact Or.inl (hsameStart (hrecvHead.trans hsame.symm))
    -- the receiver has taken over the start depot `sd` of the provider, which is gone
    have hptget := tourOf_not_dummy hpt hpd
    have hpv := isVehicle_of_tour hi hptget
    obtain ⟨pvt, hpvt⟩ := Option.isSome_iff_exists.mp hpv
    obtain ⟨sd, hsd, hsdD⟩ := tourOK_head (ho p pt hptget)
    refine Or.inr ⟨fun k' hk' => ?_, ?_⟩
    · obtain ⟨_, hq⟩ := home_typed hk'
      rw [(updateTours_prov hut hne hpd hpv).2 rfl] at hq
      cases hq
    · obtain ⟨sd', hsd', -, rfl⟩ := home_key hnew hvt' hk
      obtain rfl : sd = sd' := Option.some.inj (hsd.symm.trans (hrecvHead.symm.trans hsd'))
      refine ⟨nw.depotIdxOf sd, pvt, vt, rfl, ⟨pt, pvt, sd, hptget, hpvt, startU_iff.mpr ⟨hsd, hsdD⟩, rfl⟩, type_lt hi hK hpvt, ?_⟩
      by_cases ety : pvt = vt
      · exact Or.inl ety
      · exact Or.inr (hC vt pvt hvt hpvt ety sd (hpathHead.trans hsd) hsdD (fun e => hsame (e.trans hsd.symm)))

theorem compat_room {nw : Network} {s : Schedule} {p r : Veh} {a b : Nat} {pt rt : Tour} {path : List Nat}
    (hcompat : checkReceiverTypeCompat nw s p r a b = .ok true)
    (hpt : s.tourOf? p = some pt) (hrt : s.tourOf? r = some rt)
    (hpath : ∀ path0, Tour.subPath nw pt a b = .ok path0 → path0.head? = path.head?) :
    ∀ rvt pvt, s.typeOf? r = some rvt → s.typeOf? p = some pvt → pvt ≠ rvt →
      ∀ first, path.head? = some first → (nw.node first).isStartDepot = true → rt.nodes.head? ≠ some first →
      cnt s.depotUsage (nw.depotIdxOf first) rvt < nw.capacityOf (nw.depotIdxOf first) rvt := by
  intro rvt pvt hr hp hne first hfirst hsd hneq
  obtain ⟨path0, hsub, g⟩ := compat_guard hcompat hr hp hne hpt hrt
  exact g first (by rw [hpath path0 hsub]; exact hfirst) hsd hneq

theorem subPath_head {nw : Network} {t : Tour} {a b : Nat} {path : List Nat}
    (h : Tour.subPath nw t a b = .ok path) : path.head? = some a := by
  obtain ⟨s, e, hs, -, hse, -, rfl⟩ := subPath_ok h
  exact slice_at_head hs (by omega)

theorem fit_depotLimits {nw : Network} (hn : NetHyp nw) {s s' : Schedule} {p r : Veh} {a b : Nat}
    (hi : ListInv s) (hd : DummyInv s) (ho : ToursOK nw s.tours) (hdo : DummiesOK nw s.dummyTours)
    (hK : IdsIn nw s) (hu : UsageInv nw s) (hu' : UsageInv nw s') (hl : Limits nw s.depotUsage) (hne : p ≠ r)
    (h : fitReassign nw s p r a b = .ok s') : Limits nw s'.depotUsage := by
  obtain ⟨x, rfl⟩ := fitReassign_ok h
  obtain ⟨hprov, hrecv⟩ := fit_heads hn hi hd ho hdo x.prov_eq x.recv_eq x.path_eq x.loop_eq
  exact reassign_limits (path0 := x.path) hi hd ho hK hu hu' hl hne x.prov_eq x.recv_eq hprov hrecv
    (compat_room x.compat x.prov_eq x.recv_eq (fun path0 h0 => by rw [x.path_eq] at h0; cases h0; rfl))
    x.update_eq

theorem override_depotLimits {nw : Network} (hn : NetHyp nw) {s s' : Schedule} {p r : Veh} {a b : Nat} {d : Option Veh}
    (hi : ListInv s) (hd : DummyInv s) (ho : ToursOK nw s.tours) (hdo : DummiesOK nw s.dummyTours)
    (hK : IdsIn nw s) (hu : UsageInv nw s) (hu' : UsageInv nw s') (hl : Limits nw s.depotUsage) (hne : p ≠ r)
    (h : overrideReassign nw s p r a b = .ok (s', d)) : Limits nw s'.depotUsage := by
  obtain ⟨_, x, -, rfl⟩ := overrideReassign_ok h
  obtain ⟨hprov, hrecv⟩ := override_heads hn hi hd ho hdo x.prov_eq x.recv_eq x.remove_eq
    (Bool.eq_false_iff.mp x.chain) x.insert_eq
  -- the compatibility check reads the first node of the sub-path, the removed path begins with the same node
  exact reassign_limits (path0 := x.path) hi hd ho hK hu hu' hl hne x.prov_eq x.recv_eq hprov hrecv
    (compat_room x.compat x.prov_eq x.recv_eq
      (fun path0 h0 => by rw [remove_path_head x.remove_eq]; exact subPath_head h0))
    x.update_eq

theorem replaceEndDepot_head {nw : Network} {t nt : Tour} {d : Nat} (h : t.replaceEndDepot nw d = .ok nt) :
    nt.nodes.head? = t.nodes.head? := by
  obtain ⟨hnodes, hlen, -⟩ := C05.replaceEndDepot_nodes h
  rw [hnodes, List.head?_eq_getElem?, List.head?_eq_getElem?, List.getElem?_set_ne (by omega)]

def HeadsSame (T0 T : Tours) : Prop :=
  ∀ w, (assocGet? T w).map (fun t => t.nodes.head?) = (assocGet? T0 w).map (fun t => t.nodes.head?)

theorem fold_heads (s : Schedule) (F : Acc → Veh → R Acc) {L : List Veh} {acc acc' : Acc}
    (hF : ∀ c v c', F c v = .ok c' →
      ∃ nt t, c'.1 = assocSet c.1 v nt ∧ s.tourOf? v = some t ∧ nt.nodes.head? = t.nodes.head?)
    (hL : ∀ v ∈ L, (assocGet? s.tours v).isSome = true) (hH : HeadsSame s.tours acc.1)
    (h : L.foldlM F acc = .ok acc') : HeadsSame s.tours acc'.1 := by
  refine foldlM_induct F (fun c => HeadsSame s.tours c.1) L acc acc' (fun v hv c c' hc hstep => ?_) hH h
  obtain ⟨nt, t, hset, ht, hh⟩ := hF c v c' hstep
  intro w
  rw [hset, assocGet?_assocSet]
  by_cases e : w = v
  · rw [if_pos e, e, tourOf_of_hasTour ht (hL v hv), Option.map_some, Option.map_some, hh]
  · rw [if_neg e]
    exact hc w

theorem heads_limits {nw : Network} {V : List (Veh × Nat)} {T T' : Tours} {u u' : DepotUsage}
    (hok : UsageOK nw V T u) (hok' : UsageOK nw V T' u') (hl : Limits nw u) (hH : HeadsSame T T') : Limits nw u' := by
  refine limits_shrink hl (hok'.nodup true) (fun k w hm => ?_)
  rw [hok.mem]
  have hk := (hok'.mem true k w).mp hm
  have ⟨t', _, _, g1, _⟩ := hk
  have hw := hH w
  rw [g1] at hw
  cases hg : assocGet? T w with
  | none =>
    rw [hg] at hw
    cases hw
  | some t =>
    rw [hg] at hw
    exact home_head rfl hg g1 (Option.some.inj hw) k hk

theorem endGreedy_depotLimits {nw : Network} {s s' : Schedule} (hi : ListInv s)
    (hu : UsageInv nw s) (hu' : UsageInv nw s') (hl : Limits nw s.depotUsage)
    (h : reassignEndDepotsGreedily nw s = .ok s') : Limits nw s'.depotUsage := by
  obtain ⟨tours, usage, costs, _, _, hfold, -, rfl⟩ := reassignEndDepotsGreedily_ok h
  refine heads_limits hu hu' hl (fold_heads s (greedyStep nw s) (fun _ _ _ hstep => ?_)
    (fun v hv => listed_hasTour hi hv) (fun _ => rfl) hfold)
  obtain ⟨r, rfl⟩ := greedyStep_ok hstep
  exact ⟨r.nt, r.t, rfl, r.tour_eq, replaceEndDepot_head r.replace_eq⟩

theorem endConsistent_depotLimits {nw : Network} {s s' : Schedule} (hi : ListInv s)
    (hu : UsageInv nw s) (hu' : UsageInv nw s') (hl : Limits nw s.depotUsage)
    (h : reassignEndDepotsConsistent nw s = .ok s') : Limits nw s'.depotUsage := by
  obtain ⟨tours, usage, costs, _, _, hfold, -, rfl⟩ := reassignEndDepotsConsistent_ok h
  refine heads_limits hu hu' hl (fold_heads s (C05.endStep nw s) (fun _ _ _ hstep => ?_)
    (fun v hv => listed_hasTour hi hv) (fun _ => rfl) hfold)
  obtain ⟨r, rfl⟩ := C05.endStep_ok hstep
  exact ⟨r.nt, r.t, rfl, r.tour_eq, replaceEndDepot_head r.replace_eq⟩

theorem replaceStartDepot_head {nw : Network} {t nt : Tour} {d : Nat} (h : t.replaceStartDepot nw d = .ok nt) :
    nt.nodes.head? = some d := by
  obtain ⟨hnodes, -, hlen⟩ := replaceStartDepot_nodes h
  rw [hnodes, List.head?_eq_getElem?, List.getElem?_set_self hlen]

/-- `improve_depots_of_tour` starts the tour in a depot `can_depot_spawn_vehicle` accepts -/
theorem improveTour_start {nw : Network} {t nt : Tour} {vt : Nat} {u : DepotUsage}
    (h : improveDepotsOfTour nw t vt u = .ok nt) :
    ∃ ns, canDepotSpawn nw u ns vt = true ∧ nt.nodes.head? = some ns := by
  obtain ⟨_, ns, cur, t1, _, _, _, -, hns, hcur, hstart, -, -, -, hend⟩ := improveDepotsOfTour_ok h
  refine ⟨ns, findBestStart_spec hns, ?_⟩
  have ht1 : t1.nodes.head? = some ns := by
    split at hstart
    · exact replaceStartDepot_head hstart
    · rename_i hsame
      have e : ns = cur := by simpa using hsame
      rw [hstart, e]
      exact (startU_iff.mp hcur).1
  split at hend
  · rw [replaceEndDepot_head hend]
    exact ht1
  · rw [hend]
    exact ht1

theorem improveStep_lim {nw : Network} {s : Schedule} {acc acc' : Acc} {v : Veh}
    (h : improveStep nw s acc v = .ok acc')
    (hJ : Limits nw acc.2.1 ∧ ∀ k, (side true (getK acc.2.1 k)).Nodup) :
    Limits nw acc'.2.1 ∧ ∀ k, (side true (getK acc'.2.1 k)).Nodup := by
  obtain ⟨_, vt, nt, sd, _, -, hnt, hsd, -, -, hin⟩ := improveStep_upd h
  obtain ⟨ns, hcan, hhead⟩ := improveTour_start hnt
  obtain rfl : sd = ns := Option.some.inj ((startU_iff.mp hsd).1.symm.trans hhead)
  have hnd' := fun k => (hin true).2 k (hJ.2 k)
  refine ⟨limits_guarded (arr := v) (dn := sd) (vt := vt) hJ.1 hnd' (fun k w hm => ?_) (Or.inr hcan), hnd'⟩
  exact ((hin true).1 k w).mp hm |>.imp id (fun hh => ⟨hh.2, hh.1⟩)

theorem improve_limits {nw : Network} {s s' : Schedule} {vs : Option (List Veh)} (hi : ListInv s)
    (hu : UsageInv nw s) (hl : Limits nw s.depotUsage)
    (h : improveDepots nw s vs = .ok s') : Limits nw s'.depotUsage := by
  obtain ⟨usage0, tours, usage, costs, _, _, htake, hfold, -, rfl⟩ := improveDepots_ok h
  obtain ⟨r1, r2⟩ := takeOutAll_spec hi (vs.getD (s.vehiclesAll nw)) [] s.depotUsage usage0
    (fun b k w => by rw [hu.mem]; simp) hu.nodup htake
  have hl0 : Limits nw usage0 := limits_shrink hl (r2 true) (fun k w hm => by
    rw [hu.mem]; exact ((r1 true k w).mp hm).1)
  exact (foldlM_induct (improveStep nw s) (fun c => Limits nw c.2.1 ∧ ∀ k, (side true (getK c.2.1 k)).Nodup) _
    (s.tours, usage0, s.costs) (tours, usage, costs) (fun _ _ _ _ hJ hstep => improveStep_lim hstep hJ) ⟨hl0, r2 true⟩ hfold).1

def IdsKeep (ids ids' : List (Nat × List Veh)) : Prop :=
  ∀ vt, (assocGet? ids' vt).isSome = (assocGet? ids vt).isSome

theorem idsKeep_refl (ids : List (Nat × List Veh)) : IdsKeep ids ids := fun _ => rfl

theorem idsKeep_set {ids : List (Nat × List Veh)} {vt : Nat} {l x : List Veh} (h : assocGet? ids vt = some l) :
    IdsKeep ids (assocSet ids vt x) :=
  fun vt' => isSome_assocSet_present x vt' (by rw [h]; rfl)

theorem idsKeep_remove {ids ids' : List (Nat × List Veh)} {vt : Nat} {v : Veh} (h : idsRemove ids vt v = .ok ids') :
    IdsKeep ids ids' := by
  obtain ⟨l, hl, rfl⟩ := idsRemove_ok h
  exact idsKeep_set hl

theorem spawn_idsKeep {nw : Network} {s s' : Schedule} {vt : Nat} {path : List Nat} {v : Veh}
    (h : spawnVehicleForPath nw s vt path = .ok (s', v)) : IdsKeep s.idsByType s'.idsByType := by
  obtain ⟨r, rfl⟩ := spawnVehicleForPath_ok h
  obtain ⟨l, hl, hids⟩ := idsInsert_ok r.ids_eq
  rw [hids]
  exact idsKeep_set hl

theorem dummySpawn_idsKeep {nw : Network} {s s' : Schedule} {d : Veh} {vt : Nat} {v : Veh}
    (h : spawnToReplaceDummy nw s d vt = .ok (s', v)) : IdsKeep s.idsByType s'.idsByType := by
  obtain ⟨_, s1, -, -, hdel, hspawn⟩ := spawnToReplaceDummy_ok h
  obtain ⟨-, -, rfl⟩ := deleteDummy_ok hdel
  have hk := spawn_idsKeep hspawn
  exact hk

theorem delete_idsKeep {nw : Network} {s s' : Schedule} {v : Veh}
    (h : replaceVehicleByDummy nw s v = .ok s') : IdsKeep s.idsByType s'.idsByType := by
  obtain ⟨r, rfl⟩ := replaceVehicleByDummy_ok h
  exact idsKeep_remove r.ids_eq

theorem addPath_idsKeep {nw : Network} {s s' : Schedule} {v : Veh} {path : List Nat} {rm : Option (List Nat)}
    (h : addPathToVehicleTour nw s v path = .ok (s', rm)) : IdsKeep s.idsByType s'.idsByType := by
  obtain ⟨_, rfl⟩ := addPathToVehicleTour_ok h
  exact idsKeep_refl _

theorem rmSeg_idsKeep {nw : Network} {s s' : Schedule} {v : Veh} {a b : Nat}
    (h : removeSegment nw s v a b = .ok s') : IdsKeep s.idsByType s'.idsByType := by
  obtain ⟨_, shrunk, _, -, -, -, h⟩ := removeSegment_ok h
  cases shrunk with
  | none => exact delete_idsKeep h
  | some newTour =>
    obtain ⟨_, rfl⟩ := h
    exact idsKeep_refl _

theorem updateTours_idsKeep {nw : Network} {s : Schedule} {w' : Work} {p r : Veh} {newProv : Option Tour}
    {newRecv : Tour} {moved : List Nat}
    (h : updateTours nw s (Work.ofSchedule s) (some p) newProv r newRecv moved = .ok w') :
    IdsKeep s.idsByType w'.ids := by
  obtain ⟨w0, _, _, _, _, _, _, _, hprov, -, -, -, -, rfl⟩ := updateTours_ok h
  cases hprov with
  | shrunk _ => exact idsKeep_refl _
  | dummyGone _ _ _ => exact idsKeep_refl _
  | vehicleGone _ _ _ _ hids => exact idsKeep_remove (ids := s.idsByType) hids
  | absent _ _ => exact idsKeep_refl _

theorem fit_idsKeep {nw : Network} {s s' : Schedule} {p r : Veh} {a b : Nat}
    (h : fitReassign nw s p r a b = .ok s') : IdsKeep s.idsByType s'.idsByType := by
  obtain ⟨x, rfl⟩ := fitReassign_ok h
  exact updateTours_idsKeep x.update_eq

theorem override_idsKeep {nw : Network} {s s' : Schedule} {p r : Veh} {a b : Nat} {d : Option Veh}
    (h : overrideReassign nw s p r a b = .ok (s', d)) : IdsKeep s.idsByType s'.idsByType := by
  obtain ⟨_, x, -, rfl⟩ := overrideReassign_ok h
  exact updateTours_idsKeep x.update_eq

theorem depotOnly_idsKeep {s s' : Schedule} (h : DepotOnly s s') : IdsKeep s.idsByType s'.idsByType := by
  obtain ⟨_, _, _, _, _, rfl⟩ := h
  exact idsKeep_refl _

theorem empty_idsIn (nw : Network) : IdsIn nw (Schedule.empty nw) := by
  intro vt hvt
  obtain ⟨l, hl⟩ := Option.isSome_iff_exists.mp hvt
  have hm := assocGet?_mem hl
  simp only [Schedule.empty, List.mem_map, Prod.mk.injEq] at hm
  obtain ⟨a, ha, rfl, _⟩ := hm
  unfold Network.typeIdxs at ha
  exact List.mem_range.mp ha

/-- **type keys**: every public modification keeps the set of type keys of the per-type id lists -/
theorem idsIn_step (nw : Network) (s : Schedule) (op : SOp) (r : OpResult) (hK : IdsIn nw s)
    (h : applyOp nw s op = .ok r) : IdsIn nw r.sched := by
  have keep : ∀ {s' : Schedule}, IdsKeep s.idsByType s'.idsByType → IdsIn nw s' :=
    fun hk vt hvt => hK vt (by rw [← hk vt]; exact hvt)
  exact applyOp_cases (motive := fun _ s' => IdsIn nw s')
    (empty_idsIn nw)
    (fun _ _ _ _ hs => keep (spawn_idsKeep hs))
    (fun _ _ _ _ hs => keep (dummySpawn_idsKeep hs))
    (fun _ _ hs => keep (delete_idsKeep hs))
    (fun _ _ _ _ _ _ hs => keep (addPath_idsKeep hs))
    (fun _ _ _ _ hs => keep (rmSeg_idsKeep hs))
    (fun _ _ _ _ _ hs => keep (fit_idsKeep hs))
    (fun _ _ _ _ _ _ hs => keep (override_idsKeep hs))
    (fun _ _ hs => keep (depotOnly_idsKeep (improveDepots_depotOnly hs)))
    (fun _ hs => keep (depotOnly_idsKeep (reassignEndDepotsGreedily_depotOnly hs)))
    (fun _ _ hs => keep (depotOnly_idsKeep (recomputeTransitionsFor_depotOnly hs)))
    (fun _ hs => keep (depotOnly_idsKeep (reassignEndDepotsConsistent_depotOnly hs)))
    (fun _ _ _ _ _ _ _ => hK)
    h

theorem empty_depotLimits (nw : Network) : Limits nw (Schedule.empty nw).depotUsage :=
  fun _ _ => ⟨fun _ => Nat.zero_le _, Nat.le_trans (Nat.le_of_eq (sum_zero nw.typeIdxs)) (Nat.zero_le _)⟩

theorem recompute_depotLimits {nw : Network} {s s' : Schedule} {vts : Option (List Nat)}
    (hl : Limits nw s.depotUsage) (h : recomputeTransitionsFor nw s vts = .ok s') : Limits nw s'.depotUsage := by
  obtain ⟨_, _, -, rfl⟩ := recomputeTransitionsFor_ok h
  exact hl

/-- **C10 / C02 (depot limits), one step** -/
theorem C10_limits_step (nw : Network) (hn : NetHyp nw) (hovf : OvfNode nw) (s : Schedule) (op : SOp) (r : OpResult)
    (hinv : C10U.InvU nw s) (hK : IdsIn nw s) (hl : Limits nw s.depotUsage) (hargs : ArgsOKF op)
    (h : applyOp nw s op = .ok r) : Limits nw r.sched.depotUsage := by
  have hu' := ((C10U.stepInv_usage hn).step s op r hinv hargs h).usage
  have hu := hinv.usage
  obtain ⟨⟨hi, hd, ho⟩, hdo, _⟩ := hinv.all.fu.invF.inv
  exact applyOp_cases (motive := fun op s' => ArgsOKF op → UsageInv nw s' → Limits nw s'.depotUsage)
    (fun _ _ => empty_depotLimits nw)
    (fun _ _ _ _ hs _ hu' => spawn_depotLimits hovf hu hu' hl hs)
    (fun _ _ _ _ hs _ hu' => dummySpawn_depotLimits hovf hu hu' hl hs)
    (fun _ _ hs _ hu' => delete_depotLimits hu hu' hl hs)
    (fun _ _ _ _ _ _ hs _ hu' => addPath_depotLimits hn ho hu hu' hl hs)
    (fun _ _ _ _ hs _ hu' => rmSeg_depotLimits hi hd ho hu hu' hl hs)
    (fun _ _ _ _ _ hs hne hu' => fit_depotLimits hn hi hd ho hdo hK hu hu' hl hne hs)
    (fun _ _ _ _ _ _ hs hne hu' => override_depotLimits hn hi hd ho hdo hK hu hu' hl hne hs)
    (fun _ _ hs _ _ => improve_limits hi hu hl hs)
    (fun _ hs _ hu' => endGreedy_depotLimits hi hu hu' hl hs)
    (fun _ _ hs _ _ => recompute_depotLimits hl hs)
    (fun _ hs _ hu' => endConsistent_depotLimits hi hu hu' hl hs)
    (fun _ _ _ _ _ _ _ _ _ => hl)
    h hargs hu'

/-- everything of Props/C10Usage, the type keys of the id lists and the depot limits -/
structure InvL (nw : Network) (s : Schedule) : Prop where
  base : C10U.InvU nw s
  keys : IdsIn nw s
  limits : Limits nw s.depotUsage

theorem stepInv_limits {nw : Network} (hn : NetHyp nw) (hovf : OvfNode nw) : C11A.StepInv nw (InvL nw) where
  step := fun s op r hinv hargs h =>
    ⟨(C10U.stepInv_usage hn).step s op r hinv.base hargs h, idsIn_step nw s op r hinv.keys h,
     C10_limits_step nw hn hovf s op r hinv.base hinv.keys hinv.limits hargs h⟩
  fresh := fun _ _ _ hinv hpt => C11A.tour_ne_fresh hinv.base.all.fu.invF hpt
  setT := fun s trans hnd h => ⟨(C10U.stepInv_usage hn).setT s trans hnd h.base, h.keys, h.limits⟩
  empty := ⟨(C10U.stepInv_usage hn).empty, empty_idsIn nw, empty_depotLimits nw⟩

theorem C10_limits_reachable (nw : Network) (hn : NetHyp nw) (hovf : OvfNode nw) (ops : List SOp) (s s' : Schedule)
    (hinv : InvL nw s) (hargs : ∀ op ∈ ops, ArgsOKF op) (h : runOps nw s ops = some s') : InvL nw s' :=
  runOps_induct (stepInv_limits hn hovf).step ops s s' hinv hargs h

/-- **C10 / C02 (depot limits), every history**: in every schedule the model reaches from the empty
    schedule by public modifications (provider ≠ receiver in reassignments), every depot except the
    overflow depot holds, per vehicle type, at most as many starting vehicles as its per-type
    capacity, and in total at most its total capacity -/
theorem C10_limits_from_empty (nw : Network) (hn : NetHyp nw) (hovf : OvfNode nw) (ops : List SOp) (s' : Schedule)
    (hargs : ∀ op ∈ ops, ArgsOKF op) (h : runOps nw (Schedule.empty nw) ops = some s') :
    Limits nw s'.depotUsage :=
  (C10_limits_reachable nw hn hovf ops _ s' (stepInv_limits hn hovf).empty hargs h).limits

/-- **C02 at pipeline level**: for every decoded flow, every number of local-search steps and every
    transition optimiser (distinct type keys), if the modelled `solve_instance` returns, then its start
    schedule, its local-search result and the schedule it returns respect the depot limits (and have
    all the invariants of `C10_usage_pipeline`) -/
theorem C02_pipeline_limits (nw : Network) (hn : NetHyp nw) (hovf : OvfNode nw) (o : Solve.Oracle)
    (hopt : ∀ s, ((o.optimise s).map (·.1)).Nodup) (tr : Solve.Trace) (h : Solve.solve nw o = .ok tr) :
    InvL nw tr.start ∧ InvL nw tr.afterSearch ∧ InvL nw tr.final :=
  C11A.solve_inv (stepInv_limits hn hovf) o hopt tr h

/-- **C02 at search level**: every candidate the neighbourhood of the local search builds from a
    schedule within the depot limits (with the invariants of `C10_usage_candidates`) is within them
    too, whether the search accepts it or not -/
theorem C11_candidates_limits (nw : Network) (hn : NetHyp nw) (hovf : OvfNode nw) {limit threshold : Option Nat}
    {s : Schedule} {last : SwapInfo} {cands : List Swaps.Candidate} (hinv : InvL nw s)
    (h : Swaps.neighborsOf nw limit threshold s last = .ok cands) : ∀ c ∈ cands, InvL nw c.sched :=
  C11A.neighbors_invF (stepInv_limits hn hovf).toStepInv0 hinv h

/-- the limits in the vocabulary of the depot check: `spawnedCount` / `spawnedTotal` -/
theorem limits_counts {nw : Network} {u : DepotUsage} (hl : Limits nw u) (d : Nat) (hd : d ≠ nw.overflowDepot) :
    (∀ vt, spawnedCount u d vt ≤ nw.capacityOf d vt) ∧ spawnedTotal nw u d ≤ nw.totalCapacityOf d := hl d hd

theorem ovfNode_sound (nw : Network) (h : Spec.ovfNodeB nw = true) : OvfNode nw := by
  unfold Spec.ovfNodeB at h
  exact beq_iff_eq.mp h

end RSSched.C10Lim
