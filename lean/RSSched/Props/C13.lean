/-
Props/C13: schedule modifications change exactly what they document. Here, for all formations: the
three formation primitives every modification is built from — a replacing vehicle takes the replaced
one's position and all other positions are kept; additions go to the tail; removals keep the relative
order of the others. On the real code the monitor `frameDiffs` (Spec/Frame.lean) is evaluated on the
pre- and post-state of every modification call.
-/
import RSSched.Model.Formation
import RSSched.Spec.Frame
namespace RSSched.C13
open Formation

theorem getElem?_of_findIdx? {f : List Veh} {v : Veh} {pos : Nat} (h : f.findIdx? (· == v) = some pos) :
    f[pos]? = some v := by
  obtain ⟨hlt, hv, -⟩ := List.findIdx?_eq_some_iff_getElem.mp h
  rw [List.getElem?_eq_getElem hlt, eq_of_beq hv]

theorem C13_replace (f : List Veh) (old new : Veh) (f' : List Veh) (h : replace f old new = .ok f') :
    ∃ pos, f.findIdx? (· == old) = some pos ∧ f' = f.set pos new := by
  unfold replace at h
  cases hp : f.findIdx? (· == old) with
  | none => simp [hp] at h
  | some pos =>
    simp only [hp] at h
    cases h
    refine ⟨pos, rfl, ?_⟩
    have hlt : pos < f.length := by
      have := List.findIdx?_eq_some_iff_findIdx_eq.mp hp; omega
    rw [List.set_append_left _ _ hlt, List.dropLast_concat]

theorem C13_replace_positions (f : List Veh) (old new : Veh) (f' : List Veh) (h : replace f old new = .ok f') :
    f'.length = f.length ∧ ∀ i : Nat, f[i]? ≠ some old → f'[i]? = f[i]? := by
  obtain ⟨pos, hp, rfl⟩ := C13_replace f old new f' h
  refine ⟨List.length_set, fun i hi => List.getElem?_set_ne ?_⟩
  intro hip
  exact hi (hip ▸ getElem?_of_findIdx? hp)

theorem C13_add_at_tail (f : List Veh) (v : Veh) : addAtTail f v = f ++ [v] := rfl

theorem remove_ok {f f' : List Veh} {v : Veh} (h : remove f v = .ok f') : v ∈ f ∧ f' = f.erase v := by
  unfold remove at h
  cases hp : f.findIdx? (· == v) with
  | none => simp [hp] at h
  | some pos =>
    simp only [hp] at h
    cases h
    refine ⟨List.mem_of_getElem? (getElem?_of_findIdx? hp), ?_⟩
    rw [List.erase_eq_eraseP', List.eraseP_eq_eraseIdx, hp]

theorem C13_remove (f : List Veh) (v : Veh) (f' : List Veh) (h : remove f v = .ok f') : f' = f.erase v :=
  (remove_ok h).2

theorem C13_remove_sublist (f : List Veh) (v : Veh) (f' : List Veh) (h : remove f v = .ok f') : f'.Sublist f := by
  rw [C13_remove f v f' h]; exact List.erase_sublist

example : ∃ f', replace [Veh.real 1, Veh.real 2, Veh.real 3] (Veh.real 2) (Veh.real 9) = .ok f' ∧
    f' = [Veh.real 1, Veh.real 9, Veh.real 3] := ⟨_, rfl, by decide⟩

end RSSched.C13
