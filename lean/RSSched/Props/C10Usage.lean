/-
Props/C10Usage: the depot-usage clause of C10 and the spawn counts / balances of C09, for the model,
every history: the two vehicle sets stored per (depot, type) are duplicate-free and hold exactly the
vehicles of that type whose tour starts (resp. ends) in that depot.

Every modification but `improve_depots` calls `update_depot_usage` for each vehicle it touches
(`usage_update`); `improve_depots` empties the sets of its vehicles in a first loop and fills them in a
second.
-/
import RSSched.Props.C09CostsAll
namespace RSSched.C10U
open Schedule Spec C02 C10L C09C C10F

def getK (u : DepotUsage) (k : Nat × Nat) : List Veh × List Veh := (assocGet? u k).getD ([], [])

/-- the start set (`true`) or the end set (`false`) of an entry -/
def side (b : Bool) (p : List Veh × List Veh) : List Veh := if b then p.1 else p.2

theorem usageGet_eq (u : DepotUsage) (d vt : Nat) : usageGet u d vt = getK u (d, vt) := rfl

theorem getK_modify (u : DepotUsage) (d vt : Nat) (f : List Veh × List Veh → List Veh × List Veh) (k' : Nat × Nat) :
    getK (usageModify u d vt f) k' = if k' = (d, vt) then f (getK u (d, vt)) else getK u k' := by
  unfold usageModify getK
  rw [assocGet?_assocSet]
  by_cases h : k' = (d, vt) <;> simp [h, usageGet]

theorem mem_vehInsert (l : List Veh) (v w : Veh) : w ∈ vehInsert l v ↔ w = v ∨ w ∈ l := by
  unfold vehInsert
  split
  · rename_i h
    have hv : v ∈ l := by simpa using h
    exact ⟨Or.inr, fun hw => hw.elim (fun e => e ▸ hv) id⟩
  · exact mem_insertSorted Veh.lt v w l

theorem nodup_vehInsert (l : List Veh) (v : Veh) (h : l.Nodup) : (vehInsert l v).Nodup := by
  unfold vehInsert
  split
  · exact h
  · rename_i hc
    have hv : v ∉ l := by simpa using hc
    exact ((insertSorted_perm Veh.lt v l).nodup_iff).mpr (List.nodup_cons.mpr ⟨hv, h⟩)

/-- what `updateUsageSide` does to the entry it takes `v` out of, on side `b` … -/
def filt (b : Bool) (v : Veh) (p : List Veh × List Veh) : List Veh × List Veh :=
  if b then (p.1.filter (· != v), p.2) else (p.1, p.2.filter (· != v))

/-- … and to the entry it puts `v` into -/
def ins (b : Bool) (v : Veh) (p : List Veh × List Veh) : List Veh × List Veh :=
  if b then (vehInsert p.1 v, p.2) else (p.1, vehInsert p.2 v)

theorem side_filt (b : Bool) (v : Veh) (p : List Veh × List Veh) :
    side b (filt b v p) = (side b p).filter (· != v) ∧ side (!b) (filt b v p) = side (!b) p := by
  cases b <;> simp [side, filt]

theorem side_ins (b : Bool) (v : Veh) (p : List Veh × List Veh) :
    side b (ins b v p) = vehInsert (side b p) v ∧ side (!b) (ins b v p) = side (!b) p := by
  cases b <;> simp [side, ins]

/-- `u'` differs from `u` on side `b` only: under every key membership there changes as `F` says
    (old membership to new), the other side stays as it is, and no duplicates appear -/
def SideStep (b : Bool) (F : Nat × Nat → Veh → Prop → Prop) (u u' : DepotUsage) : Prop :=
  ∀ k, (∀ w, w ∈ side b (getK u' k) ↔ F k w (w ∈ side b (getK u k))) ∧
    side (!b) (getK u' k) = side (!b) (getK u k) ∧
    ((side b (getK u k)).Nodup → (side b (getK u' k)).Nodup)

theorem SideStep.refl (b : Bool) (u : DepotUsage) : SideStep b (fun _ _ X => X) u u :=
  fun _ => ⟨fun _ => Iff.rfl, rfl, id⟩

theorem SideStep.congr {b : Bool} {F G : Nat × Nat → Veh → Prop → Prop} {u u' : DepotUsage}
    (h : SideStep b F u u') (hFG : ∀ k w X, F k w X ↔ G k w X) : SideStep b G u u' :=
  fun k => ⟨fun w => ((h k).1 w).trans (hFG k w _), (h k).2⟩

theorem SideStep.trans {b : Bool} {F G : Nat × Nat → Veh → Prop → Prop} {u u1 u' : DepotUsage}
    (h1 : SideStep b F u u1) (h2 : SideStep b G u1 u') : SideStep b (fun k w X => G k w (F k w X)) u u' :=
  fun k => ⟨fun w => by rw [(h2 k).1, (h1 k).1], by rw [(h2 k).2.1, (h1 k).2.1], fun hk => (h2 k).2.2 ((h1 k).2.2 hk)⟩

/-- a change of the start sets followed by a change of the end sets, seen from either side -/
theorem SideStep.both {F : Bool → Nat × Nat → Veh → Prop → Prop} {u u1 u' : DepotUsage}
    (h1 : SideStep true (F true) u u1) (h2 : SideStep false (F false) u1 u') (b : Bool) :
    (∀ k w, w ∈ side b (getK u' k) ↔ F b k w (w ∈ side b (getK u k))) ∧
    (∀ k, (side b (getK u k)).Nodup → (side b (getK u' k)).Nodup) := by
  cases b with
  | true =>
    have e : ∀ k, side true (getK u' k) = side true (getK u1 k) := fun k => (h2 k).2.1
    exact ⟨fun k w => by rw [e]; exact (h1 k).1 w, fun k hk => by rw [e]; exact (h1 k).2.2 hk⟩
  | false =>
    have e : ∀ k, side false (getK u1 k) = side false (getK u k) := fun k => (h1 k).2.1
    exact ⟨fun k w => by rw [← e]; exact (h2 k).1 w, fun k hk => (h2 k).2.2 (by rw [e]; exact hk)⟩

theorem modify_filt (u : DepotUsage) (d vt : Nat) (b : Bool) (v : Veh) :
    SideStep b (fun k w X => X ∧ ¬ (k = (d, vt) ∧ w = v)) u (usageModify u d vt (filt b v)) := by
  intro k
  rw [getK_modify]
  by_cases ek : k = (d, vt)
  · subst ek
    rw [if_pos rfl, (side_filt b v _).1, (side_filt b v _).2]
    refine ⟨fun w => ?_, rfl, fun h => h.sublist List.filter_sublist⟩
    rw [List.mem_filter, bne_iff_ne]
    exact ⟨fun h => ⟨h.1, fun h' => h.2 h'.2⟩, fun h => ⟨h.1, fun e => h.2 ⟨rfl, e⟩⟩⟩
  · rw [if_neg ek]
    exact ⟨fun w => ⟨fun h => ⟨h, fun h' => ek h'.1⟩, (·.1)⟩, rfl, id⟩

theorem modify_ins (u : DepotUsage) (d vt : Nat) (b : Bool) (v : Veh) :
    SideStep b (fun k w X => X ∨ (k = (d, vt) ∧ w = v)) u (usageModify u d vt (ins b v)) := by
  intro k
  rw [getK_modify]
  by_cases ek : k = (d, vt)
  · subst ek
    rw [if_pos rfl, (side_ins b v _).1, (side_ins b v _).2]
    refine ⟨fun w => ?_, rfl, nodup_vehInsert _ _⟩
    rw [mem_vehInsert]
    exact ⟨fun h => h.elim (fun e => Or.inr ⟨rfl, e⟩) Or.inl, fun h => h.elim Or.inr (fun h' => Or.inl h'.2)⟩
  · rw [if_neg ek]
    exact ⟨fun w => ⟨Or.inl, fun h => h.elim id (fun h' => absurd h'.1 ek)⟩, rfl, id⟩

def depotU (b : Bool) (nw : Network) (t : Tour) : R Nat := if b then Transition.startDepotU nw t else Transition.endDepotU nw t

theorem depotU_ite {nw : Network} {t : Tour} {sd ed : Nat} (hsd : Transition.startDepotU nw t = .ok sd)
    (hed : Transition.endDepotU nw t = .ok ed) (b : Bool) : depotU b nw t = .ok (if b then sd else ed) := by
  cases b
  · exact hed
  · exact hsd

def Removed (nw : Network) (s : Schedule) (v : Veh) (vt : Nat) (b : Bool) (k : Nat × Nat) : Prop :=
  s.isVehicle v = true ∧ ∃ t dn, s.tourOf? v = some t ∧ depotU b nw t = .ok dn ∧ k = (nw.depotIdxOf dn, vt)

def Inserted (nw : Network) (vt : Nat) (newDepot : Option Nat) (k : Nat × Nat) : Prop :=
  ∃ dn, newDepot = some dn ∧ k = (nw.depotIdxOf dn, vt)

/-- `updateUsageSide` cut in two: the removal from the old set, which can fail, and the insertion into
    the new one; each half is one `SideStep` -/
def removeSide (nw : Network) (s : Schedule) (u : DepotUsage) (v : Veh) (vt : Nat) (b : Bool) : R DepotUsage :=
  if s.isVehicle v then do
    let t ← unwrapO (s.tourOf? v) "tour_of(vehicle).unwrap()"
    let dn ← depotU b nw t
    if !((side b (usageGet u (nw.depotIdxOf dn) vt)).contains v) then .error (.panic "depot_usage: remove(&vehicle_id).unwrap()") else
    pure (usageModify u (nw.depotIdxOf dn) vt (filt b v))
  else pure u

def insertSide (nw : Network) (u : DepotUsage) (v : Veh) (vt : Nat) (b : Bool) (nd : Option Nat) : DepotUsage :=
  match nd with
  | some dn => usageModify u (nw.depotIdxOf dn) vt (ins b v)
  | none => u

theorem updateUsageSide_eq (nw : Network) (s : Schedule) (u : DepotUsage) (v : Veh) (vt : Nat) (b : Bool) (nd : Option Nat) :
    updateUsageSide nw s u v vt b nd = (removeSide nw s u v vt b >>= fun u1 => pure (insertSide nw u1 v vt b nd)) := by
  unfold updateUsageSide removeSide depotU
  simp only [ite_bind, bind_assoc, pure_bind]
  cases nd <;> rfl

theorem removeSide_spec {nw : Network} {s : Schedule} {u u1 : DepotUsage} {v : Veh} {vt : Nat} {b : Bool}
    (h1 : removeSide nw s u v vt b = .ok u1) :
    SideStep b (fun k w X => X ∧ ¬ (Removed nw s v vt b k ∧ w = v)) u u1 := by
  unfold removeSide at h1
  split at h1
  · rename_i hv
    obtain ⟨t, ht, h1⟩ := bind_ok h1
    obtain ⟨dn, hdn, h1⟩ := bind_ok h1
    split at h1
    · cases h1
    · cases h1
      have hk : ∀ k, Removed nw s v vt b k ↔ k = (nw.depotIdxOf dn, vt) := fun k =>
        ⟨fun ⟨_, t', dn', ht', hdn', hk⟩ => by
          rw [unwrapO_ok ht] at ht'; cases ht'
          rw [hdn] at hdn'; cases hdn'
          exact hk,
         fun hk => ⟨hv, t, dn, unwrapO_ok ht, hdn, hk⟩⟩
      exact (modify_filt u _ vt b v).congr (fun k w X => by rw [hk])
  · rename_i hv
    cases h1
    exact (SideStep.refl b u).congr (fun k w X => ⟨fun hX => ⟨hX, fun hr => hv hr.1.1⟩, (·.1)⟩)

theorem insertSide_spec (nw : Network) (u1 : DepotUsage) (v : Veh) (vt : Nat) (b : Bool) (nd : Option Nat) :
    SideStep b (fun k w X => X ∨ (Inserted nw vt nd k ∧ w = v)) u1 (insertSide nw u1 v vt b nd) := by
  cases nd with
  | none => exact (SideStep.refl b u1).congr (fun k w X => ⟨Or.inl, fun hX => hX.elim id (fun ⟨⟨_, e, _⟩, _⟩ => (nomatch e))⟩)
  | some dn =>
    have hk : ∀ k, Inserted nw vt (some dn) k ↔ k = (nw.depotIdxOf dn, vt) := fun k =>
      ⟨fun ⟨_, e, hk⟩ => by cases e; exact hk, fun hk => ⟨dn, rfl, hk⟩⟩
    exact (modify_ins u1 _ vt b v).congr (fun k w X => by rw [hk])

theorem updateUsageSide_spec {nw : Network} {s : Schedule} {u u' : DepotUsage} {v : Veh} {vt : Nat} {b : Bool}
    {newDepot : Option Nat} (h : updateUsageSide nw s u v vt b newDepot = .ok u') :
    SideStep b (fun k w X => (X ∧ ¬ (Removed nw s v vt b k ∧ w = v)) ∨ (Inserted nw vt newDepot k ∧ w = v)) u u' := by
  rw [updateUsageSide_eq] at h
  obtain ⟨u1, h1, h⟩ := bind_ok h
  cases h
  exact (removeSide_spec h1).trans (insertSide_spec nw u1 v vt b newDepot)

/-- the key under which a vehicle with type `ovt` and tour `ot` belongs on side `b` -/
def HomeE (nw : Network) (ovt : Option Nat) (ot : Option Tour) (b : Bool) (k : Nat × Nat) : Prop :=
  ∃ t vt dn, ot = some t ∧ ovt = some vt ∧ depotU b nw t = .ok dn ∧ k = (nw.depotIdxOf dn, vt)

def Home (nw : Network) (V : List (Veh × Nat)) (T : Tours) (b : Bool) (v : Veh) (k : Nat × Nat) : Prop :=
  HomeE nw (assocGet? V v) (assocGet? T v) b k

theorem not_homeE_noTour {nw : Network} {ovt : Option Nat} {b : Bool} {k : Nat × Nat} : ¬ HomeE nw ovt none b k :=
  fun ⟨_, _, _, e, _⟩ => nomatch e

theorem not_homeE_noType {nw : Network} {ot : Option Tour} {b : Bool} {k : Nat × Nat} : ¬ HomeE nw none ot b k :=
  fun ⟨_, _, _, _, e, _⟩ => nomatch e

theorem home_typed {nw : Network} {V : List (Veh × Nat)} {T : Tours} {b : Bool} {v : Veh} {k : Nat × Nat}
    (h : Home nw V T b v k) : ∃ vt, assocGet? V v = some vt := by
  obtain ⟨_, vt, _, -, hvt, -⟩ := h
  exact ⟨vt, hvt⟩

theorem home_unique {nw : Network} {V : List (Veh × Nat)} {T : Tours} {b : Bool} {v : Veh} {k k' : Nat × Nat}
    (h : Home nw V T b v k) (h' : Home nw V T b v k') : k = k' := by
  obtain ⟨t, vt, dn, ht, hvt, hdn, hk⟩ := h
  obtain ⟨t', vt', dn', ht', hvt', hdn', hk'⟩ := h'
  rw [ht] at ht'; cases ht'
  rw [hvt] at hvt'; cases hvt'
  rw [hdn] at hdn'; cases hdn'
  rw [hk, hk']

theorem home_iff_key {nw : Network} {V : List (Veh × Nat)} {T : Tours} {v : Veh} {t : Tour} {vt sd ed : Nat}
    (ht : assocGet? T v = some t) (hvt : assocGet? V v = some vt) (hsd : Transition.startDepotU nw t = .ok sd)
    (hed : Transition.endDepotU nw t = .ok ed) (b : Bool) (k : Nat × Nat) :
    Home nw V T b v k ↔ k = (nw.depotIdxOf (if b then sd else ed), vt) := by
  have hkey : Home nw V T b v (nw.depotIdxOf (if b then sd else ed), vt) :=
    ⟨t, vt, _, ht, hvt, depotU_ite hsd hed b, rfl⟩
  exact ⟨fun h => home_unique h hkey, fun hk => hk ▸ hkey⟩

/-- the local function `go` of `updateDepotUsage`, stated apart so that what it does is proved once
    for both calls -/
def goU (nw : Network) (s : Schedule) (u : DepotUsage) (v : Veh) (vt : Nat) (newTour : Option Tour) : R DepotUsage :=
  match newTour with
  | none => updateUsageSide nw s u v vt true none >>= fun u1 => updateUsageSide nw s u1 v vt false none
  | some t => Transition.startDepotU nw t >>= fun ns => Transition.endDepotU nw t >>= fun ne =>
      updateUsageSide nw s u v vt true (some ns) >>= fun u1 => updateUsageSide nw s u1 v vt false (some ne)

theorem updateDepotUsage_eq (nw : Network) (s : Schedule) (u : DepotUsage) (V' : List (Veh × Nat)) (T' : Tours) (v : Veh) :
    updateDepotUsage nw s u V' T' v =
      match assocGet? V' v with
      | some vt => goU nw s u v vt (assocGet? T' v)
      | none => match s.typeOf? v with
        | some vt => goU nw s u v vt none
        | none => pure u := by
  unfold updateDepotUsage goU
  cases assocGet? V' v with
  | some vt => cases assocGet? T' v <;> rfl
  | none => rfl

theorem goU_spec {nw : Network} {s : Schedule} {u u' : DepotUsage} {v : Veh} {vt : Nat} {newTour : Option Tour}
    (h : goU nw s u v vt newTour = .ok u') (b : Bool) :
    (∀ k w, w ∈ side b (getK u' k) ↔
      ((w ∈ side b (getK u k) ∧ ¬ (Removed nw s v vt b k ∧ w = v)) ∨ (HomeE nw (some vt) newTour b k ∧ w = v))) ∧
    (∀ k, (side b (getK u k)).Nodup → (side b (getK u' k)).Nodup) := by
  obtain ⟨nd, u1, h1, h2, hnd⟩ : ∃ (nd : Bool → Option Nat) (u1 : DepotUsage),
      updateUsageSide nw s u v vt true (nd true) = .ok u1 ∧ updateUsageSide nw s u1 v vt false (nd false) = .ok u' ∧
      ∀ b k, Inserted nw vt (nd b) k ↔ HomeE nw (some vt) newTour b k := by
    unfold goU at h
    cases newTour with
    | none =>
      obtain ⟨u1, h1, h2⟩ := bind_ok h
      exact ⟨fun _ => none, u1, h1, h2, fun b k => ⟨fun ⟨_, e, _⟩ => (nomatch e), fun hh => (not_homeE_noTour hh).elim⟩⟩
    | some t =>
      obtain ⟨sd, hsd, h⟩ := bind_ok h
      obtain ⟨ed, hed, h⟩ := bind_ok h
      obtain ⟨u1, h1, h2⟩ := bind_ok h
      refine ⟨fun b => some (if b then sd else ed), u1, h1, h2, fun b k => ?_⟩
      constructor
      · intro ⟨dn, hdn, hk⟩
        cases hdn
        exact ⟨t, vt, _, rfl, rfl, depotU_ite hsd hed b, hk⟩
      · intro ⟨t', vt', dn, ht', hvt', hdn, hk⟩
        cases ht'; cases hvt'
        rw [depotU_ite hsd hed b] at hdn; cases hdn
        exact ⟨_, rfl, hk⟩
  obtain ⟨m, n⟩ := SideStep.both
    (F := fun b k w X => (X ∧ ¬ (Removed nw s v vt b k ∧ w = v)) ∨ (Inserted nw vt (nd b) k ∧ w = v))
    (updateUsageSide_spec h1) (updateUsageSide_spec h2) b
  exact ⟨fun k w => by rw [m, hnd], n⟩

theorem removed_iff_home {nw : Network} {s : Schedule} {v : Veh} {vt : Nat} (hi : ListInv s)
    (hty : s.isVehicle v = true → assocGet? s.vehicles v = some vt) (b : Bool) (k : Nat × Nat) :
    Removed nw s v vt b k ↔ Home nw s.vehicles s.tours b v k := by
  constructor
  · intro ⟨hv, t, dn, ht, hdn, hk⟩
    rw [(tourOf_vehicle hi hv).1] at ht
    exact ⟨t, vt, dn, ht, hty hv, hdn, hk⟩
  · intro ⟨t, vt0, dn, ht, hvt0, hdn, hk⟩
    have hv : s.isVehicle v = true := typed_isVehicle hvt0
    have e := hty hv
    rw [hvt0] at e; cases e
    exact ⟨hv, t, dn, by rw [(tourOf_vehicle hi hv).1]; exact ht, hdn, hk⟩

theorem updateDepotUsage_spec {nw : Network} {s : Schedule} {u u' : DepotUsage} {V' : List (Veh × Nat)} {T' : Tours}
    {v : Veh} (hi : ListInv s)
    (hpre : ∀ b k, v ∈ side b (getK u k) ↔ Home nw s.vehicles s.tours b v k)
    (htype : ∀ vt, assocGet? V' v = some vt → s.isVehicle v = true → assocGet? s.vehicles v = some vt)
    (h : updateDepotUsage nw s u V' T' v = .ok u') :
    (∀ b k, v ∈ side b (getK u' k) ↔ Home nw V' T' b v k) ∧
    (∀ b k w, w ≠ v → (w ∈ side b (getK u' k) ↔ w ∈ side b (getK u k))) ∧
    (∀ b k, (side b (getK u k)).Nodup → (side b (getK u' k)).Nodup) := by
  have hgo : ∀ (vt : Nat) (newTour : Option Tour),
      (s.isVehicle v = true → assocGet? s.vehicles v = some vt) →
      goU nw s u v vt newTour = .ok u' →
      (∀ b k, v ∈ side b (getK u' k) ↔ HomeE nw (some vt) newTour b k) ∧
      (∀ b k w, w ≠ v → (w ∈ side b (getK u' k) ↔ w ∈ side b (getK u k))) ∧
      (∀ b k, (side b (getK u k)).Nodup → (side b (getK u' k)).Nodup) := by
    intro vt newTour hty hh
    refine ⟨fun b k => ?_, fun b k w hw => ?_, fun b => (goU_spec hh b).2⟩
    · -- `v` was under its old key and nowhere else, so it is now under the new key and nowhere else
      rw [(goU_spec hh b).1, removed_iff_home hi hty, hpre]
      exact ⟨fun h => h.elim (fun h => absurd ⟨h.1, rfl⟩ h.2) (·.1), fun h => Or.inr ⟨h, rfl⟩⟩
    · rw [(goU_spec hh b).1]
      exact ⟨fun h => h.elim (·.1) (fun h => absurd h.2 hw), fun h => Or.inl ⟨h, fun h' => hw h'.2⟩⟩
  rw [updateDepotUsage_eq] at h
  unfold Home
  split at h
  · rename_i vt hvt
    rw [hvt]
    exact hgo vt (assocGet? T' v) (htype vt hvt) h
  · rename_i hvt
    rw [hvt]
    split at h
    · rename_i vt hst
      obtain ⟨g1, g2, g3⟩ := hgo vt none (fun _ => hst) h
      exact ⟨fun b k => (g1 b k).trans ⟨fun hh => (not_homeE_noTour hh).elim, fun hh => (not_homeE_noType hh).elim⟩,
        g2, g3⟩
    · rename_i hst
      cases h
      refine ⟨fun b k => (hpre b k).trans ⟨fun hh => ?_, fun hh => (not_homeE_noType hh).elim⟩,
        fun _ _ _ _ => Iff.rfl, fun _ _ hk => hk⟩
      obtain ⟨_, vt0, _, _, hv0, _⟩ := hh
      rw [show assocGet? s.vehicles v = none from hst] at hv0
      cases hv0

structure UsageOK (nw : Network) (V : List (Veh × Nat)) (T : Tours) (u : DepotUsage) : Prop where
  mem : ∀ b k v, v ∈ side b (getK u k) ↔ Home nw V T b v k
  nodup : ∀ b k, (side b (getK u k)).Nodup

/-- **the depot-usage clause**: per (depot, type) the start (end) set holds exactly the vehicles of
    the type whose tour starts (ends) in the depot, each once -/
def UsageInv (nw : Network) (s : Schedule) : Prop := UsageOK nw s.vehicles s.tours s.depotUsage

theorem home_congr {nw : Network} {V V' : List (Veh × Nat)} {T T' : Tours} {w : Veh}
    (hV : assocGet? V' w = assocGet? V w) (hT : assocGet? T' w = assocGet? T w) (b : Bool) (k : Nat × Nat) :
    Home nw V' T' b w k ↔ Home nw V T b w k := by
  unfold Home; rw [hV, hT]

theorem usage_update {nw : Network} {s : Schedule} {Vc V' : List (Veh × Nat)} {Tc T' : Tours} {uc u' : DepotUsage}
    {v : Veh} (hi : ListInv s) (hok : UsageOK nw Vc Tc uc)
    (hvV : assocGet? Vc v = assocGet? s.vehicles v) (hvT : assocGet? Tc v = assocGet? s.tours v)
    (hV' : ∀ w, w ≠ v → assocGet? V' w = assocGet? Vc w) (hT' : ∀ w, w ≠ v → assocGet? T' w = assocGet? Tc w)
    (htype : ∀ vt, assocGet? V' v = some vt → s.isVehicle v = true → assocGet? s.vehicles v = some vt)
    (h : updateDepotUsage nw s uc V' T' v = .ok u') : UsageOK nw V' T' u' := by
  have hpre : ∀ b k, v ∈ side b (getK uc k) ↔ Home nw s.vehicles s.tours b v k := by
    intro b k
    rw [hok.mem b k v]
    exact home_congr hvV hvT b k
  obtain ⟨g1, g2, g3⟩ := updateDepotUsage_spec hi hpre htype h
  refine ⟨fun b k w => ?_, fun b k => g3 b k (hok.nodup b k)⟩
  by_cases e : w = v
  · subst e; exact g1 b k
  · rw [g2 b k w e, hok.mem b k w]
    exact (home_congr (hV' w e) (hT' w e) b k).symm

theorem empty_usage (nw : Network) : UsageInv nw (Schedule.empty nw) := by
  have he : ∀ k, getK (Schedule.empty nw).depotUsage k = ([], []) := fun k => rfl
  refine ⟨fun b k v => ?_, fun b k => ?_⟩
  · rw [he]
    constructor
    · intro h; cases b <;> simp [side] at h
    · intro hh; exact (not_homeE_noTour hh).elim
  · rw [he]; cases b <;> simp [side]

theorem spawn_usage {nw : Network} {s s' : Schedule} {vt : Nat} {path : List Nat} {v : Veh}
    (hi : ListInv s) (hu : UsageInv nw s) (h : spawnVehicleForPath nw s vt path = .ok (s', v)) : UsageInv nw s' := by
  obtain ⟨r, rfl⟩ := spawnVehicleForPath_ok h
  refine usage_update (v := v) hi hu rfl rfl (fun w hw => get_set_ne _ _ _ _ hw)
    (fun w hw => get_set_ne _ _ _ _ hw) (fun vt' _ hv => ?_) r.usage_eq
  rw [r.veh_eq] at hv
  exact absurd hv (Bool.eq_false_iff.mp (C09U.fresh_not_vehicle hi))

theorem delete_usage {nw : Network} {s s' : Schedule} {v : Veh}
    (hi : ListInv s) (hu : UsageInv nw s) (h : replaceVehicleByDummy nw s v = .ok s') : UsageInv nw s' := by
  obtain ⟨r, rfl⟩ := replaceVehicleByDummy_ok h
  refine usage_update (v := v) hi hu rfl rfl (fun w hw => get_erase_ne _ _ _ hw)
    (fun w hw => get_erase_ne _ _ _ hw) (fun vt' hv' _ => ?_) r.usage_eq
  rw [get_erase_self] at hv'; cases hv'

theorem addPath_usage {nw : Network} {s s' : Schedule} {v : Veh} {path : List Nat} {rm : Option (List Nat)}
    (hi : ListInv s) (hu : UsageInv nw s) (h : addPathToVehicleTour nw s v path = .ok (s', rm)) : UsageInv nw s' := by
  obtain ⟨r, rfl⟩ := addPathToVehicleTour_ok h
  exact usage_update (v := v) hi hu rfl rfl (fun w _ => rfl)
    (fun w hw => get_set_ne _ _ _ _ hw) (fun vt' hv' _ => hv') r.usage_eq

theorem utc_vehicle {s : Schedule} (hi : ListInv s) (hd : DummyInv s) {tours dummyTours : Tours} {costs : Nat}
    {v : Veh} {t : Tour} {r : Tours × Tours × Nat} (hv : s.isVehicle v = true)
    (h : updateTourAndCosts s tours dummyTours costs v t = .ok r) : r.1 = assocSet tours v t := by
  rcases updateTourAndCosts_ok h with ⟨hdm, -⟩ | ⟨-, _, -, -, rfl⟩
  · rw [vehicle_not_dummy hi hd hv] at hdm; cases hdm
  · rfl

theorem rmSeg_usage {nw : Network} {s s' : Schedule} {v : Veh} {a b : Nat}
    (hi : ListInv s) (hu : UsageInv nw s) (h : removeSegment nw s v a b = .ok s') : UsageInv nw s' := by
  obtain ⟨_, shrunk, _, -, -, -, h⟩ := removeSegment_ok h
  cases shrunk with
  | none => exact delete_usage hi hu h
  | some newTour =>
    obtain ⟨r, rfl⟩ := h
    exact usage_update (v := v) hi hu rfl rfl (fun w _ => rfl) (utc_tours_ne r.tours_eq) (fun vt' hv' _ => hv')
      r.usage_eq

theorem two_updates {nw : Network} {s : Schedule} {V1 : List (Veh × Nat)} {T1 T2 : Tours} {u1 u2 : DepotUsage}
    {p r : Veh} (hi : ListInv s) (hu : UsageInv nw s) (hne : p ≠ r)
    (hV1 : ∀ w, w ≠ p → assocGet? V1 w = assocGet? s.vehicles w)
    (hT1 : ∀ w, w ≠ p → assocGet? T1 w = assocGet? s.tours w)
    (hT2 : ∀ w, w ≠ r → assocGet? T2 w = assocGet? T1 w)
    (htp : ∀ vt, assocGet? V1 p = some vt → s.isVehicle p = true → assocGet? s.vehicles p = some vt)
    (h1 : updateDepotUsage nw s s.depotUsage V1 T1 p = .ok u1)
    (h2 : updateDepotUsage nw s u1 V1 T2 r = .ok u2) : UsageOK nw V1 T2 u2 := by
  have step1 := usage_update (v := p) hi hu rfl rfl hV1 hT1 htp h1
  have hr : r ≠ p := fun e => hne e.symm
  exact usage_update (v := r) hi step1 (hV1 r hr) (hT1 r hr) (fun _ _ => rfl) hT2
    (fun vt hv _ => by rw [← hV1 r hr]; exact hv) h2

theorem updateTours_usage {nw : Network} {s : Schedule} {w' : Work} {p r : Veh} {newProv : Option Tour}
    {newRecv : Tour} {moved : List Nat} (hi : ListInv s) (hu : UsageInv nw s) (hne : p ≠ r)
    (h : updateTours nw s (Work.ofSchedule s) (some p) newProv r newRecv moved = .ok w') :
    UsageOK nw w'.vehicles w'.tours w'.usage := by
  obtain ⟨w0, _, tours, _, _, _, _, _, hprov, hu1, hutc, hu2, -, rfl⟩ := updateTours_ok h
  have hT2 : ∀ w, w ≠ r → assocGet? tours w = assocGet? w0.tours w := utc_tours_ne hutc
  cases hprov with
  | shrunk hp =>
    exact two_updates hi hu hne (fun _ _ => rfl) (utc_tours_ne hp) hT2 (fun _ hv _ => hv) hu1 hu2
  | dummyGone _ _ _ | absent _ _ =>
    exact two_updates hi hu hne (fun _ _ => rfl) (fun _ _ => rfl) hT2 (fun _ hv _ => hv) hu1 hu2
  | vehicleGone _ _ _ _ _ =>
    exact two_updates hi hu hne (fun _ hw => get_erase_ne _ _ _ hw) (fun _ hw => get_erase_ne _ _ _ hw) hT2
      (fun _ hv _ => by rw [get_erase_self] at hv; cases hv) hu1 hu2

theorem fit_usage {nw : Network} {s s' : Schedule} {p r : Veh} {a b : Nat}
    (hi : ListInv s) (hu : UsageInv nw s) (hne : p ≠ r) (h : fitReassign nw s p r a b = .ok s') : UsageInv nw s' := by
  obtain ⟨x, rfl⟩ := fitReassign_ok h
  exact updateTours_usage hi hu hne x.update_eq

theorem override_usage {nw : Network} {s s' : Schedule} {p r : Veh} {a b : Nat} {d : Option Veh}
    (hi : ListInv s) (hu : UsageInv nw s) (hne : p ≠ r) (h : overrideReassign nw s p r a b = .ok (s', d)) :
    UsageInv nw s' := by
  obtain ⟨_, x, -, rfl⟩ := overrideReassign_ok h
  exact updateTours_usage hi hu hne x.update_eq

theorem dummySpawn_usage {nw : Network} {s s' : Schedule} {d : Veh} {vt : Nat} {v : Veh}
    (hi : ListInv s) (hu : UsageInv nw s) (h : spawnToReplaceDummy nw s d vt = .ok (s', v)) : UsageInv nw s' := by
  obtain ⟨_, s1, -, -, hdel, hspawn⟩ := spawnToReplaceDummy_ok h
  have hi1 := deleteDummy_listInv hi hdel
  obtain ⟨-, -, rfl⟩ := deleteDummy_ok hdel
  exact spawn_usage hi1 hu hspawn

theorem fold_usage (nw : Network) (s : Schedule) (hi : ListInv s) (F : Acc → Veh → R Acc)
    {L : List Veh} {acc acc' : Acc} (h : L.foldlM F acc = .ok acc')
    (hF : ∀ c v c', F c v = .ok c' →
      ∃ nt, c'.1 = assocSet c.1 v nt ∧ updateDepotUsage nw s c.2.1 s.vehicles c'.1 v = .ok c'.2.1)
    (hnd : L.Nodup) (hok : UsageOK nw s.vehicles acc.1 acc.2.1)
    (hsame : ∀ w ∈ L, assocGet? acc.1 w = assocGet? s.tours w) : UsageOK nw s.vehicles acc'.1 acc'.2.1 := by
  refine foldlM_tours_induct (J := fun c => UsageOK nw s.vehicles c.1 c.2.1) L acc acc' hnd hsame
    (fun v _ c c' hJ hv0 hstep => ?_) hok h
  obtain ⟨nt, hset, hupd⟩ := hF c v c' hstep
  refine ⟨?_, nt, hset⟩
  exact usage_update (v := v) hi hJ rfl hv0 (fun _ _ => rfl)
    (fun w hw => by rw [hset]; exact get_set_ne _ _ _ _ hw) (fun vt hv _ => hv) hupd

theorem endConsistent_usage {nw : Network} {s s' : Schedule} (hi : ListInv s) (hu : UsageInv nw s)
    (h : reassignEndDepotsConsistent nw s = .ok s') : UsageInv nw s' := by
  obtain ⟨tours, usage, costs, _, _, hfold, -, rfl⟩ := reassignEndDepotsConsistent_ok h
  refine fold_usage nw s hi (C05.endStep nw s) hfold (fun _ _ _ hstep => ?_) (vehiclesAll_nodup hi) hu (fun _ _ => rfl)
  obtain ⟨r, rfl⟩ := C05.endStep_ok hstep
  exact ⟨r.nt, rfl, r.usage_eq⟩

theorem endGreedy_usage {nw : Network} {s s' : Schedule} (hi : ListInv s) (hu : UsageInv nw s)
    (h : reassignEndDepotsGreedily nw s = .ok s') : UsageInv nw s' := by
  obtain ⟨tours, usage, costs, _, _, hfold, -, rfl⟩ := reassignEndDepotsGreedily_ok h
  refine fold_usage nw s hi (greedyStep nw s) hfold (fun _ _ _ hstep => ?_) (vehiclesAll_nodup hi) hu (fun _ _ => rfl)
  obtain ⟨r, rfl⟩ := greedyStep_ok hstep
  exact ⟨r.nt, rfl, r.usage_eq⟩

theorem takeOut_eq {nw : Network} {s : Schedule} {u u' : DepotUsage} {v : Veh} (h : C09A.takeOut nw s u v = .ok u') :
    ∃ vt t sd ed, s.typeOf? v = some vt ∧ s.tourOf? v = some t ∧ Transition.startDepotU nw t = .ok sd ∧
      Transition.endDepotU nw t = .ok ed ∧
      u' = usageModify (usageModify u (nw.depotIdxOf sd) vt (filt true v)) (nw.depotIdxOf ed) vt (filt false v) := by
  obtain ⟨r, rfl⟩ := C09A.takeOut_ok h
  refine ⟨r.vt, r.t, r.sd, r.ed, r.type_eq, r.tour_eq, r.start_eq, r.end_eq, ?_⟩
  have hm1 : usageModify u (nw.depotIdxOf r.sd) r.vt (filt true v)
      = assocSet u (nw.depotIdxOf r.sd, r.vt) (r.startEntry.1.filter (· != v), r.startEntry.2) := by
    unfold usageModify usageGet
    rw [r.startEntry_eq]
    rfl
  rw [hm1]
  unfold usageModify usageGet
  rw [r.endEntry_eq]
  rfl

/-- after the first loop: the listed vehicles are in no set, everybody else is untouched -/
theorem takeOutAll_spec {nw : Network} {s : Schedule} (hi : ListInv s) : ∀ (L : List Veh) (done : List Veh)
    (u u' : DepotUsage),
    (∀ b k w, w ∈ side b (getK u k) ↔ (Home nw s.vehicles s.tours b w k ∧ w ∉ done)) →
    (∀ b k, (side b (getK u k)).Nodup) →
    L.foldlM (C09A.takeOut nw s) u = .ok u' →
    (∀ b k w, w ∈ side b (getK u' k) ↔ (Home nw s.vehicles s.tours b w k ∧ w ∉ done ∧ w ∉ L)) ∧
    (∀ b k, (side b (getK u' k)).Nodup)
  | [], done, u, u', hm, hn, h => by
    cases h
    exact ⟨fun b k w => by rw [hm]; simp, hn⟩
  | v :: rest, done, u, u', hm, hn, h => by
    rw [List.foldlM_cons] at h
    obtain ⟨u1, h1, h⟩ := bind_ok h
    obtain ⟨vt, t, sd, ed, hvt, ht, hsd, hed, hu1⟩ := takeOut_eq h1
    have hv : s.isVehicle v = true := typed_isVehicle hvt
    have htt : assocGet? s.tours v = some t := by rw [← (tourOf_vehicle hi hv).1]; exact ht
    have hhome := home_iff_key (nw := nw) htt hvt hsd hed
    have hout := SideStep.both (F := fun b k w X => X ∧ ¬ (k = (nw.depotIdxOf (if b then sd else ed), vt) ∧ w = v))
      (modify_filt u (nw.depotIdxOf sd) vt true v) (modify_filt _ (nw.depotIdxOf ed) vt false v)
    have hm1 : ∀ b k w, w ∈ side b (getK u1 k) ↔ (Home nw s.vehicles s.tours b w k ∧ w ∉ v :: done) := by
      intro b k w
      -- a vehicle at home under `k` is `v` exactly if `k` is `v`'s key
      rw [hu1, (hout b).1, hm, List.mem_cons]
      exact ⟨fun ⟨⟨hh, hd⟩, hne⟩ => ⟨hh, fun e => e.elim (fun e => hne ⟨(hhome b k).mp (e ▸ hh), e⟩) hd⟩,
        fun ⟨hh, hd⟩ => ⟨⟨hh, fun e => hd (Or.inr e)⟩, fun e => hd (Or.inl e.2)⟩⟩
    obtain ⟨r1, r2⟩ := takeOutAll_spec hi rest (v :: done) u1 u' hm1
      (fun b k => by rw [hu1]; exact (hout b).2 k (hn b k)) h
    refine ⟨fun b k w => ?_, r2⟩
    rw [r1, List.mem_cons, List.mem_cons]
    exact ⟨fun ⟨hh, hd, hr⟩ => ⟨hh, fun e => hd (Or.inr e), fun e => e.elim (fun e => hd (Or.inl e)) hr⟩,
      fun ⟨hh, hd, hr⟩ => ⟨hh, fun e => e.elim (fun e => hr (Or.inl e)) hd, fun e => hr (Or.inr e)⟩⟩

theorem improveStep_upd {nw : Network} {s : Schedule} {acc acc' : Acc} {v : Veh}
    (h : improveStep nw s acc v = .ok acc') :
    ∃ t vt nt sd ed, s.typeOf? v = some vt ∧ improveDepotsOfTour nw t vt acc.2.1 = .ok nt ∧
      Transition.startDepotU nw nt = .ok sd ∧ Transition.endDepotU nw nt = .ok ed ∧ acc'.1 = assocSet acc.1 v nt ∧
      ∀ b, (∀ k w, w ∈ side b (getK acc'.2.1 k) ↔
          (w ∈ side b (getK acc.2.1 k) ∨ (k = (nw.depotIdxOf (if b then sd else ed), vt) ∧ w = v))) ∧
        (∀ k, (side b (getK acc.2.1 k)).Nodup → (side b (getK acc'.2.1 k)).Nodup) := by
  obtain ⟨r, rfl⟩ := improveStep_ok h
  exact ⟨r.t, r.vt, r.nt, r.sd, r.ed, r.type_eq, r.improve_eq, r.start_eq, r.end_eq, rfl,
    SideStep.both (F := fun b k w X => X ∨ (k = (nw.depotIdxOf (if b then r.sd else r.ed), r.vt) ∧ w = v))
      (modify_ins acc.2.1 (nw.depotIdxOf r.sd) r.vt true v) (modify_ins _ (nw.depotIdxOf r.ed) r.vt false v)⟩

/-- the second loop: each listed vehicle is put where its new tour starts and ends -/
theorem improveFold_spec {nw : Network} {s : Schedule} (hi : ListInv s) : ∀ (L : List Veh), L.Nodup →
    ∀ (acc acc' : Acc),
    (∀ b k w, w ∈ side b (getK acc.2.1 k) ↔ (Home nw s.vehicles acc.1 b w k ∧ w ∉ L)) →
    (∀ b k, (side b (getK acc.2.1 k)).Nodup) →
    L.foldlM (improveStep nw s) acc = .ok acc' →
    UsageOK nw s.vehicles acc'.1 acc'.2.1
  | [], _, acc, acc', hm, hn, h => by
    cases h
    exact ⟨fun b k w => by rw [hm]; simp, hn⟩
  | v :: rest, hnd, acc, acc', hm, hn, h => by
    rw [List.foldlM_cons] at h
    obtain ⟨a1, h1, h⟩ := bind_ok h
    obtain ⟨_, vt, nt, sd, ed, hvt, -, hsd, hed, hT, hin⟩ := improveStep_upd h1
    obtain ⟨hvr, hnd'⟩ := List.nodup_cons.mp hnd
    have hhome := home_iff_key (nw := nw) (get_set_self acc.1 v nt) hvt hsd hed
    refine improveFold_spec hi rest hnd' a1 acc' (fun b k w => ?_) (fun b k => (hin b).2 k (hn b k)) h
    rw [(hin b).1, hT, hm, List.mem_cons]
    by_cases e : w = v
    · subst e
      rw [hhome]
      exact ⟨fun hh => hh.elim (fun hh => absurd (Or.inl rfl) hh.2) (fun hh => ⟨hh.1, hvr⟩),
        fun hh => Or.inr ⟨hh.1, rfl⟩⟩
    · rw [home_congr rfl (get_set_ne _ _ _ _ e) b k]
      exact ⟨fun hh => hh.elim (fun hh => ⟨hh.1, fun x => hh.2 (Or.inr x)⟩) (fun hh => absurd hh.2 e),
        fun hh => Or.inl ⟨hh.1, fun x => x.elim e hh.2⟩⟩

theorem improve_usage {nw : Network} {s s' : Schedule} {vs : Option (List Veh)} (hi : ListInv s) (hu : UsageInv nw s)
    (h : improveDepots nw s vs = .ok s') : UsageInv nw s' := by
  have hnd : (vs.getD (s.vehiclesAll nw)).Nodup := by
    cases vs with
    | none => exact vehiclesAll_nodup hi
    | some L => exact C09A.improve_nodup h
  obtain ⟨usage0, tours, usage, costs, _, _, htake, hfold, -, rfl⟩ := improveDepots_ok h
  obtain ⟨r1, r2⟩ := takeOutAll_spec hi (vs.getD (s.vehiclesAll nw)) [] s.depotUsage usage0
    (fun b k w => by rw [hu.mem]; simp) hu.nodup htake
  exact improveFold_spec hi _ hnd (s.tours, usage0, s.costs) (tours, usage, costs)
    (fun b k w => by rw [r1]; simp) r2 hfold

theorem recompute_usage {nw : Network} {s s' : Schedule} {vts : Option (List Nat)} (hu : UsageInv nw s)
    (h : recomputeTransitionsFor nw s vts = .ok s') : UsageInv nw s' := by
  obtain ⟨_, _, -, rfl⟩ := recomputeTransitionsFor_ok h
  exact hu

/-- **C10 (depot usage), one step**: every public modification keeps the depot bookkeeping exact -/
theorem C10_usage_step (nw : Network) (s : Schedule) (op : SOp) (r : OpResult)
    (hi : ListInv s) (hd : DummyInv s) (hu : UsageInv nw s) (hargs : ArgsOKF op) (h : applyOp nw s op = .ok r) :
    UsageInv nw r.sched :=
  applyOp_cases (motive := fun op s' => ArgsOKF op → UsageInv nw s')
    (fun _ => empty_usage nw)
    (fun _ _ _ _ hs _ => spawn_usage hi hu hs)
    (fun _ _ _ _ hs _ => dummySpawn_usage hi hu hs)
    (fun _ _ hs _ => delete_usage hi hu hs)
    (fun _ _ _ _ _ _ hs _ => addPath_usage hi hu hs)
    (fun _ _ _ _ hs _ => rmSeg_usage hi hu hs)
    (fun _ _ _ _ _ hs hne => fit_usage hi hu hne hs)
    (fun _ _ _ _ _ _ hs hne => override_usage hi hu hne hs)
    (fun _ _ hs _ => improve_usage hi hu hs)
    (fun _ hs _ => endGreedy_usage hi hu hs)
    (fun _ _ hs _ => recompute_usage hu hs)
    (fun _ hs _ => endConsistent_usage hi hu hs)
    (fun _ _ _ _ _ _ _ _ => hu)
    h hargs

/-- all the every-history invariants of Props/C09CostsAll plus the depot bookkeeping -/
structure InvU (nw : Network) (s : Schedule) : Prop where
  all : C09A.InvAll nw s
  usage : UsageInv nw s

theorem stepInv_usage {nw : Network} (hn : NetHyp nw) : C11A.StepInv nw (InvU nw) where
  step := fun s op r hinv hargs h =>
    ⟨(C09A.stepInv_all hn).step s op r hinv.all hargs h,
     C10_usage_step nw s op r hinv.all.fu.invF.inv.tinv.listing hinv.all.fu.invF.inv.tinv.dummies hinv.usage hargs h⟩
  fresh := fun _ _ _ hinv hpt => C11A.tour_ne_fresh hinv.all.fu.invF hpt
  setT := fun s trans hnd h => ⟨(C09A.stepInv_all hn).setT s trans hnd h.all, h.usage⟩
  empty := ⟨(C09A.stepInv_all hn).empty, empty_usage nw⟩

theorem C10_usage_reachable (nw : Network) (hn : NetHyp nw) (ops : List SOp) (s s' : Schedule)
    (hinv : InvU nw s) (hargs : ∀ op ∈ ops, ArgsOKF op) (h : runOps nw s ops = some s') : InvU nw s' :=
  runOps_induct (stepInv_usage hn).step ops s s' hinv hargs h

/-- **C10 / C09 (depot usage), every history**: in every schedule the model reaches from the empty
    schedule by public modifications (provider ≠ receiver in reassignments), for every depot, type
    and side: the start (end) set of the depot holds exactly the real vehicles of the type whose tour
    starts (ends) in the depot, and each of them once — so the number of spawned vehicles the depot
    check counts is the number of tours that start there -/
theorem C10_usage_from_empty (nw : Network) (hn : NetHyp nw) (ops : List SOp) (s' : Schedule)
    (hargs : ∀ op ∈ ops, ArgsOKF op) (h : runOps nw (Schedule.empty nw) ops = some s') :
    UsageInv nw s' :=
  (C10_usage_reachable nw hn ops _ s' (stepInv_usage hn).empty hargs h).usage

/-- **C10 / C09 (depot usage) at pipeline level**: for every decoded flow, every number of
    local-search steps and every transition optimiser (distinct type keys), if the modelled
    `solve_instance` returns, then its start schedule, its local-search result and the schedule it
    returns have exact depot bookkeeping (`UsageInv`) and all the caches of `C04_pipeline_caches` -/
theorem C10_usage_pipeline (nw : Network) (hn : NetHyp nw) (o : Solve.Oracle)
    (hopt : ∀ s, ((o.optimise s).map (·.1)).Nodup) (tr : Solve.Trace) (h : Solve.solve nw o = .ok tr) :
    InvU nw tr.start ∧ InvU nw tr.afterSearch ∧ InvU nw tr.final :=
  C11A.solve_inv (stepInv_usage hn) o hopt tr h

/-- **C10 / C09 (depot usage) at search level**: every candidate the neighbourhood of the local
    search builds from a schedule with exact depot bookkeeping and caches has them too, whether the
    search accepts it or not -/
theorem C10_usage_candidates (nw : Network) (hn : NetHyp nw) {limit threshold : Option Nat} {s : Schedule}
    {last : SwapInfo} {cands : List Swaps.Candidate} (hinv : InvU nw s)
    (h : Swaps.neighborsOf nw limit threshold s last = .ok cands) : ∀ c ∈ cands, InvU nw c.sched :=
  C11A.neighbors_invF (stepInv_usage hn).toStepInv0 hinv h

/-- what the invariant says about the counters the depot check reads: a vehicle counted at a depot
    has a tour that starts there, and conversely -/
theorem usage_counts {nw : Network} {s : Schedule} (hu : UsageInv nw s) (d vt : Nat) (v : Veh) :
    v ∈ (getK s.depotUsage (d, vt)).1 ↔
      ∃ t dn, assocGet? s.tours v = some t ∧ assocGet? s.vehicles v = some vt ∧
        Transition.startDepotU nw t = .ok dn ∧ d = nw.depotIdxOf dn := by
  show v ∈ side true (getK s.depotUsage (d, vt)) ↔ _
  rw [hu.mem]
  constructor
  · intro ⟨t, vt', dn, ht, hvt, hdn, hk⟩
    cases hk
    exact ⟨t, dn, ht, hvt, hdn, rfl⟩
  · intro ⟨t, dn, ht, hvt, hdn, hk⟩
    exact ⟨t, vt, dn, ht, hvt, hdn, by rw [hk]⟩

end RSSched.C10U
