/-
Spec/Frame: C13 — each public schedule modification has its documented effect and nothing else.
Written from the doc comments of solution/src/schedule/modifications.rs and the property text, in
terms of the pre-state and the post-state only (no model step is involved).
-/
import RSSched.Spec.Schedule
namespace RSSched.Spec
open RSSched Network

inductive SOp where
  | spawn (vt : Nat) (path : List Nat)
  | dummySpawn (d : Veh) (vt : Nat)
  | delete (v : Veh)
  | addPath (v : Veh) (path : List Nat)
  | rmSeg (v : Veh) (a b : Nat)
  | fit (p r : Veh) (a b : Nat)
  | override (p r : Veh) (a b : Nat)
  | improve (vs : Option (List Veh))
  | endGreedy
  | recompute (vts : Option (List Nat))
  | endConsistent
  | setTrans (vt : Nat) (v : Veh) (ci : Nat)
  | init
  deriving Repr, DecidableEq, Inhabited

def nodesOf (s : Schedule) (v : Veh) : Option (List Nat) := (s.tourOf? v).map (·.nodes)
def activitiesOf (nw : Network) (l : List Nat) : List Nat := l.filter (fun n => !(nw.node n).isDepot)
def servicesOf (nw : Network) (l : List Nat) : List Nat := l.filter (fun n => (nw.node n).isService)

/-- all tours (real and dummy) except those of the listed vehicles are identical -/
def othersUntouched (pre post : Schedule) (except : List Veh) : Bool :=
  (pre.tours ++ pre.dummyTours).all (fun (v, t) => except.contains v || post.tourOf? v == some t) &&
  (post.tours ++ post.dummyTours).all (fun (v, _) => except.contains v || (pre.tourOf? v).isSome)

/-- formations of all nodes outside `touched` are identical -/
def formationsUntouched (nw : Network) (pre post : Schedule) (touched : List Nat) : Bool :=
  nw.coverableNodes.all (fun n => touched.contains n || pre.formationOf n == post.formationOf n)

/-- the formation rule: a replacing vehicle takes the replaced one's position, additions go to the
    tail, removals keep the order -/
def formationStepOk (f f' : List Veh) : Bool :=
  let removed := f.filter (fun v => !(f'.contains v))
  let added := f'.filter (fun v => !(f.contains v))
  match removed, added with
  | [], [] =>
    -- unchanged, or the receiver already served the node: re-added at the tail, old entry removed
    f' == f || f.any (fun x => f' == f.erase x ++ [x])
  | [], [a] => f' == f ++ [a]
  | [r], [] =>
    f' == f.filter (· != r) ||
    -- the receiver was already on the node: it takes the provider's position and its own old
    -- entry is removed (override of a node the receiver already serves)
    f.any (fun x => x != r && f' == (f.map (fun v => if v == r then x else v)).erase x)
  | [r], [a] => f' == f.map (fun v => if v == r then a else v)
  | _, _ => false

def formationRule (nw : Network) (pre post : Schedule) : Bool :=
  nw.coverableNodes.all (fun n => formationStepOk (pre.formationOf n) (post.formationOf n))

def slice? (nodes : List Nat) (a b : Nat) : Option (List Nat) :=
  match posOf nodes a, posOf nodes b with
  | some s, some e => if s ≤ e then some ((nodes.drop s).take (e + 1 - s)) else none
  | _, _ => none

/-- depot-only operations: vehicle sets, activities of every tour, dummy tours and all
    formations unchanged -/
def depotOnly (nw : Network) (pre post : Schedule) : Bool :=
  pre.vehicles == post.vehicles && pre.dummyTours == post.dummyTours && pre.formations == post.formations &&
  pre.idsByType == post.idsByType && pre.dummyIds == post.dummyIds && pre.counter == post.counter &&
  pre.tours.all (fun (v, t) => (post.tourOf? v).map (fun t' => inner t'.nodes) == some (inner t.nodes)) &&
  pre.tours.length == post.tours.length

def newDummyOf (pre post : Schedule) : List Veh :=
  (post.dummyTours.map (·.1)).filter (fun d => !(pre.isDummy d))

/-- C13 monitor for a successful operation; `retPath` and `retDummy` are what the call returned
    besides the schedule (removed path / new dummy id) -/
def frameDiffs (nw : Network) (op : SOp) (pre post : Schedule) (retPath : Option (List Nat)) (retDummy : Option Veh) : List String :=
  let chk (b : Bool) (name : String) : List String := if b then [] else [name]
  match op with
  | .init => []
  | .spawn vt path =>
    let v := Veh.real pre.counter
    let acts := activitiesOf nw path
    chk (post.typeOf? v == some vt && !(pre.isVehicle v)) "spawn-new-vehicle" ++
    chk ((nodesOf post v).map inner == some acts) "spawn-activities" ++
    chk (othersUntouched pre post [v]) "spawn-others-untouched" ++
    chk (formationsUntouched nw pre post acts && acts.all (fun n => post.formationOf n == pre.formationOf n ++ [v])) "spawn-formations" ++
    chk (post.counter == pre.counter + 1 && pre.dummyTours == post.dummyTours) "spawn-counter-dummies"
  | .dummySpawn d vt =>
    let v := Veh.real pre.counter
    let dn := (nodesOf pre d).getD []
    chk (post.typeOf? v == some vt && !(post.isDummy d)) "dummyspawn-replaced" ++
    chk ((nodesOf post v).map inner == some dn) "dummyspawn-activities" ++
    chk (othersUntouched pre post [v, d]) "dummyspawn-others-untouched" ++
    chk (formationsUntouched nw pre post dn && formationRule nw pre post) "dummyspawn-formations"
  | .delete v =>
    let old := (nodesOf pre v).getD []
    let svc := servicesOf nw old
    let nd := newDummyOf pre post
    chk (!(post.isVehicle v) && (post.tourOf? v).isNone) "delete-vehicle-gone" ++
    chk (if svc.isEmpty then nd.isEmpty else nd == [Veh.dum pre.counter] && nodesOf post (Veh.dum pre.counter) == some svc) "delete-dummy-holds-service-trips" ++
    chk (othersUntouched pre post (v :: nd)) "delete-others-untouched" ++
    chk (formationsUntouched nw pre post old && formationRule nw pre post && nw.coverableNodes.all (fun n => !((post.formationOf n).contains v))) "delete-formations"
  | .addPath v path =>
    let old := (nodesOf pre v).getD []
    let (exp, dropped) := insertRef nw false old path
    chk (nodesOf post v == some exp) "addpath-receiver-tour" ++
    chk (retPath == (if hasNonDepot nw dropped then some dropped else none)) "addpath-returned-conflict" ++
    chk (othersUntouched pre post [v]) "addpath-others-untouched" ++
    chk (formationsUntouched nw pre post (path ++ dropped) &&
         nw.coverableNodes.all (fun n => ((post.formationOf n).contains v) == exp.contains n) &&
         nw.coverableNodes.all (fun n => (post.formationOf n).filter (· != v) == (pre.formationOf n).filter (· != v))) "addpath-formations" ++
    chk (pre.dummyTours == post.dummyTours && pre.counter == post.counter) "addpath-no-dummy"
  | .rmSeg v a b =>
    let old := (nodesOf pre v).getD []
    match slice? old a b with
    | none => ["rmseg-segment-not-on-tour"]
    | some sl =>
      let rest := old.filter (fun n => !(sl.contains n))
      let svc := servicesOf nw sl
      let nd := newDummyOf pre post
      chk (if hasNonDepot nw rest then nodesOf post v == some rest else !(post.isVehicle v)) "rmseg-provider-tour" ++
      chk (if svc.isEmpty then nd.isEmpty else nd == [Veh.dum pre.counter] && nodesOf post (Veh.dum pre.counter) == some svc) "rmseg-dummy-holds-service-trips" ++
      chk (othersUntouched pre post (v :: nd)) "rmseg-others-untouched" ++
      chk (formationsUntouched nw pre post sl && formationRule nw pre post &&
           (activitiesOf nw sl).all (fun n => !((post.formationOf n).contains v))) "rmseg-formations"
  | .override p r a b =>
    let pn := (nodesOf pre p).getD []
    let rn := (nodesOf pre r).getD []
    match slice? pn a b with
    | none => ["override-segment-not-on-tour"]
    | some sl =>
      let rest := pn.filter (fun n => !(sl.contains n))
      let rDummy := pre.isDummy r
      let (exp, dropped) := insertRef nw rDummy rn sl
      let displaced := servicesOf nw dropped
      let nd := newDummyOf pre post
      chk (if hasNonDepot nw rest then nodesOf post p == some rest else (post.tourOf? p).isNone) "override-provider-loses-moved-nodes" ++
      chk (nodesOf post r == some exp) "override-receiver-gains-moved-nodes" ++
      chk (if displaced.isEmpty then nd.isEmpty && retDummy.isNone
           else nd == [Veh.dum pre.counter] && retDummy == some (Veh.dum pre.counter) && nodesOf post (Veh.dum pre.counter) == some displaced) "override-displaced-trips-in-new-dummy" ++
      chk (othersUntouched pre post (p :: r :: nd)) "override-others-untouched" ++
      chk (formationsUntouched nw pre post (sl ++ dropped) && formationRule nw pre post &&
           -- on every moved activity the (real) receiver is listed and the (real) provider is not;
           -- on every displaced activity that was not moved the receiver is no longer listed
           (activitiesOf nw sl).all (fun n =>
             (!(pre.isVehicle r) || (post.formationOf n).contains r) &&
             (p == r || !(pre.isVehicle p) || !((post.formationOf n).contains p))) &&
           (activitiesOf nw dropped).all (fun n => sl.contains n || !((post.formationOf n).contains r))) "override-formations"
  | .fit p r a b =>
    let pn := (nodesOf pre p).getD []
    let rn := (nodesOf pre r).getD []
    match slice? pn a b with
    | none => ["fit-segment-not-on-tour"]
    | some sl =>
      let rn' := (nodesOf post r).getD []
      let rDummy := pre.isDummy r
      let slEff := if rDummy then activitiesOf nw sl else sl
      let moved := rn'.filter (fun n => !(rn.contains n))
      let restP := pn.filter (fun n => !(moved.contains n))
      chk (rn.all (fun n => rn'.contains n || (nw.node n).isDepot)) "fit-receiver-keeps-own-nodes" ++
      chk (moved.all (slEff.contains ·)) "fit-moved-nodes-from-segment" ++
      chk (if hasNonDepot nw restP then (nodesOf post p).map (activitiesOf nw) == some (activitiesOf nw restP)
           else (post.tourOf? p).isNone) "fit-provider-loses-exactly-moved-nodes" ++
      chk ((newDummyOf pre post).isEmpty && pre.counter == post.counter) "fit-no-new-dummy" ++
      chk (othersUntouched pre post [p, r]) "fit-others-untouched" ++
      chk (formationsUntouched nw pre post sl && formationRule nw pre post &&
           -- on every moved activity the (real) receiver is listed and the (real) provider is not
           (activitiesOf nw moved).all (fun n =>
             (!(pre.isVehicle r) || (post.formationOf n).contains r) &&
             (p == r || !(pre.isVehicle p) || !((post.formationOf n).contains p)))) "fit-formations"
  | .improve _ => chk (depotOnly nw pre post) "improve-depot-only"
  | .endGreedy =>
    chk (depotOnly nw pre post && pre.tours.all (fun (v, t) => (post.tourOf? v).map (·.nodes.head?) == some t.nodes.head?)) "endgreedy-end-depot-only"
  | .endConsistent =>
    chk (depotOnly nw pre post && pre.tours.all (fun (v, t) => (post.tourOf? v).map (·.nodes.head?) == some t.nodes.head?)) "endconsistent-end-depot-only" ++
    chk (nw.typeIdxs.all (fun vt => (pre.transitionOf vt).cycles.map (·.vehicles) == (post.transitionOf vt).cycles.map (·.vehicles))) "endconsistent-keeps-cycles" ++
    chk (nw.typeIdxs.all (fun vt => (post.transitionOf vt).cycles.all (fun c =>
          (cyclicPairs c.vehicles).all (fun (x, y) =>
            match post.tourOf? x, pre.tourOf? y with
            | some tx, some ty => endDepotOf nw tx == startDepotOf nw ty
            | _, _ => false)))) "endconsistent-end-depot-is-successors-start"
  | .recompute vts =>
    chk (depotOnly nw pre post && pre.tours == post.tours && pre.depotUsage == post.depotUsage) "recompute-tours-untouched" ++
    chk (nw.typeIdxs.all (fun vt => (vts.map (·.contains vt)).getD true || pre.transitionOf vt == post.transitionOf vt)) "recompute-other-types-untouched"
  | .setTrans _ _ _ =>
    chk (depotOnly nw pre post && pre.tours == post.tours && pre.depotUsage == post.depotUsage && pre.costs == post.costs && pre.unserved == post.unserved) "settrans-only-transitions"

end RSSched.Spec
