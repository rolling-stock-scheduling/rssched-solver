/-
Model/Network: the instance as parsed (model/src/json_serialisation/mod.rs `JsonInput` with ids
resolved to positions), `load` (create_locations, create_vehicle_types, create_config,
create_service_trips, create_depots, create_maintenance_slots, `Network::new`) and the queries of
model/src/network.rs, nodes.rs, depot.rs, locations.rs.
-/
import RSSched.Model.Base
namespace RSSched

/-! ### Instance -/
structure VType where
  capacity : Nat
  seats : Nat
  maxForm : Option Nat
  deriving Repr, DecidableEq, Inhabited

structure InDepot where
  loc : Nat
  capacity : Nat
  allowed : List (Nat × Option Nat)   -- (vehicle type, per-type capacity)
  deriving Repr, DecidableEq, Inhabited

structure RSeg where
  origin : Nat
  dest : Nat
  distance : Nat
  duration : Nat
  maxForm : Option Nat
  deriving Repr, DecidableEq, Inhabited

structure Route where
  vt : Nat
  segs : List RSeg
  deriving Repr, DecidableEq, Inhabited

structure DSeg where
  rseg : Nat          -- position of the route segment inside the route
  departure : Nat     -- seconds
  passengers : Nat
  seated : Nat
  deriving Repr, DecidableEq, Inhabited

structure Departure where
  route : Nat
  segs : List DSeg
  deriving Repr, DecidableEq, Inhabited

structure MaintIn where
  loc : Nat
  start : Nat
  stop : Nat
  tracks : Nat
  deriving Repr, DecidableEq, Inhabited

structure Instance where
  vtypes : List VType
  nLocs : Nat
  depots : Option (List InDepot)
  /-- realised order of the default depots (`loc.iter()` over a `HashMap`): depot `k` sits at
      location `defaultOrder[k]`. Only read when `depots = none`. -/
  defaultOrder : List Nat
  routes : List Route
  departures : List Departure
  maint : List MaintIn
  dhIdx : List Nat            -- `deadHeadTrips.indices` as location positions
  dhDur : List (List Nat)
  dhDist : List (List Nat)
  forbidDH : Bool
  shuntMin : Nat
  shuntDH : Nat
  maxDist : Nat
  cStaff : Nat
  cService : Nat
  cMaint : Nat
  cDH : Nat
  cIdle : Nat
  deriving Repr, Inhabited

/-! ### Network -/
structure Node where
  kind : Kind
  idx : Nat
  startT : ExtTime
  endT : ExtTime
  startLoc : Loc
  endLoc : Loc
  vt : Nat := 0
  dist : Nat := 0
  pax : Nat := 0
  seated : Nat := 0
  maxForm : Option Nat := none
  tracks : Nat := 0
  depot : Nat := 0
  deriving Repr, DecidableEq, Inhabited

structure Depot where
  loc : Loc
  total : Nat
  allowed : List (Nat × Option Nat)
  deriving Repr, DecidableEq, Inhabited

structure Network where
  nodes : Array Node
  vtypes : Array VType
  depots : Array Depot               -- last one is the overflow depot
  nLocs : Nat
  dhDur : List (Nat × List (Nat × Nat))   -- origin ↦ dest ↦ seconds (after capping)
  dhDist : List (Nat × List (Nat × Nat))  -- origin ↦ dest ↦ metres (after capping)
  forbidDH : Bool
  shuntMin : Nat
  shuntDH : Nat
  maxDist : Nat
  cStaff : Nat
  cService : Nat
  cMaint : Nat
  cDH : Nat
  cIdle : Nat
  planning : Nat
  deriving Repr, Inhabited

namespace Node
def isService (n : Node) : Bool := n.kind == .service
def isMaint (n : Node) : Bool := n.kind == .maint
def isStartDepot (n : Node) : Bool := n.kind == .startDepot
def isEndDepot (n : Node) : Bool := n.kind == .endDepot
def isDepot (n : Node) : Bool := n.isStartDepot || n.isEndDepot

/-- `Node::duration` -/
def duration (n : Node) : R Dur :=
  if n.isDepot then .ok Dur.zero else ExtTime.diff n.endT n.startT

/-- `Node::cmp_start_time` as a strict order: start, then end, then `NodeIdx` -/
def ltStart (a b : Node) : Bool :=
  ExtTime.lt a.startT b.startT ||
  (a.startT == b.startT &&
    (ExtTime.lt a.endT b.endT || (a.endT == b.endT && nodeKeyLt a.kind a.idx b.kind b.idx)))

def leStart (a b : Node) : Bool := !(ltStart b a)
end Node

namespace Network

def node (nw : Network) (i : Nat) : Node := nw.nodes.getD i default
def size (nw : Network) : Nat := nw.nodes.size
def allIdx (nw : Network) : List Nat := List.range nw.nodes.size

def vtype (nw : Network) (vt : Nat) : VType := nw.vtypes.getD vt default
def nTypes (nw : Network) : Nat := nw.vtypes.size
def typeIdxs (nw : Network) : List Nat := List.range nw.vtypes.size

def depot (nw : Network) (d : Nat) : Depot := nw.depots.getD d default
def overflowDepot (nw : Network) : Nat := nw.depots.size - 1

def matGet (m : List (Nat × List (Nat × Nat))) (a b : Nat) : Option Nat :=
  (assocGet? m a).bind (fun row => assocGet? row b)

/-- `Locations::travel_time`. `none` stands for the Rust `unwrap()` panic on a missing entry. -/
def travelTime? (nw : Network) (a b : Loc) : Option Dur :=
  match a, b with
  | .station x, .station y => (matGet nw.dhDur x y).map Dur.len
  | _, _ => some .inf

def distance? (nw : Network) (a b : Loc) : Option Dist :=
  match a, b with
  | .station x, .station y => (matGet nw.dhDist x y).map Dist.d
  | _, _ => some .inf

/-- totalised (a missing entry reads as 0), for instances whose matrix covers all used locations;
    the partial version above is what the panic analysis uses. -/
def travelTime (nw : Network) (a b : Loc) : Dur := (nw.travelTime? a b).getD (.len 0)
def distance (nw : Network) (a b : Loc) : Dist := (nw.distance? a b).getD (.d 0)

def deadHeadTimeBetween (nw : Network) (a b : Nat) : Dur :=
  nw.travelTime (nw.node a).endLoc (nw.node b).startLoc

def deadHeadDistanceBetween (nw : Network) (a b : Nat) : Dist :=
  nw.distance (nw.node a).endLoc (nw.node b).startLoc

def isActivity (n : Node) : Bool := n.isService || n.isMaint

/-- `shunting_duration_between_activities_if_no_dead_head_trip` -/
def shuntNoDH (nw : Network) (n1 n2 : Node) : Dur :=
  if isActivity n1 && isActivity n2 then .len nw.shuntMin else .len 0

/-- `shunting_duration_between_activities_if_dead_head_trip` -/
def shuntWithDH (nw : Network) (n1 n2 : Node) : Dur :=
  Dur.add (if isActivity n1 then .len nw.shuntDH else .len 0)
          (if isActivity n2 then .len nw.shuntDH else .len 0)

/-- `minimal_duration_between_nodes_as_ref` -/
def minDurNodes (nw : Network) (n1 n2 : Node) : Dur :=
  if n1.endLoc = n2.startLoc then nw.shuntNoDH n1 n2
  else Dur.add (nw.travelTime n1.endLoc n2.startLoc) (nw.shuntWithDH n1 n2)

def minDur (nw : Network) (a b : Nat) : Dur := nw.minDurNodes (nw.node a) (nw.node b)

/-- `Network::can_reach` -/
def canReachNodes (nw : Network) (n1 n2 : Node) : Bool :=
  if n2.isStartDepot || n1.isEndDepot then false
  else if n1.isStartDepot || n2.isEndDepot then true
  else if nw.forbidDH && n1.endLoc != n2.startLoc then false
  else ExtTime.le (ExtTime.add n1.endT (nw.minDurNodes n1 n2)) n2.startT

def canReach (nw : Network) (a b : Nat) : Bool := nw.canReachNodes (nw.node a) (nw.node b)

/-- `Network::idle_time_between` (the "negative idle time" branch returns zero) -/
def idleTimeBetween (nw : Network) (a b : Nat) : Dur :=
  let n1 := nw.node a
  let n2 := nw.node b
  if n1.isStartDepot || n2.isEndDepot then .len 0 else
  let idleStart := ExtTime.add n1.endT (nw.deadHeadTimeBetween a b)
  if ExtTime.le idleStart n2.startT then
    match ExtTime.diff n2.startT idleStart with
    | .ok d => d
    | .error _ => .len 0
  else .len 0

/-! #### node lists -/
def idxsWhere (nw : Network) (p : Node → Bool) : List Nat :=
  nw.allIdx.filter (fun i => p (nw.node i))

def sortByStart (nw : Network) (l : List Nat) : List Nat :=
  l.mergeSort (fun a b => (nw.node a).leStart (nw.node b))

/-- `service_nodes[vt]`, sorted by `cmp_start_time` -/
def serviceNodes (nw : Network) (vt : Nat) : List Nat :=
  nw.sortByStart (nw.idxsWhere (fun n => n.isService && n.vt == vt))

def maintNodes (nw : Network) : List Nat := nw.sortByStart (nw.idxsWhere Node.isMaint)
def startDepotNodes (nw : Network) : List Nat := nw.sortByStart (nw.idxsWhere Node.isStartDepot)
def endDepotNodes (nw : Network) : List Nat := nw.sortByStart (nw.idxsWhere Node.isEndDepot)

/-- key order of `SortedNodes = BTreeMap<(DateTime, NodeIdx), _>` -/
def keyLt (t1 : ExtTime) (n1 : Node) (t2 : ExtTime) (n2 : Node) : Bool :=
  ExtTime.lt t1 t2 || (t1 == t2 && nodeKeyLt n1.kind n1.idx n2.kind n2.idx)

def sortedByStartAll (nw : Network) : List Nat :=
  nw.allIdx.mergeSort (fun a b => !(keyLt (nw.node b).startT (nw.node b) (nw.node a).startT (nw.node a)))

/-- `all_service_nodes`: services in `nodes_sorted_by_start` order -/
def allServiceNodes (nw : Network) : List Nat :=
  nw.sortedByStartAll.filter (fun i => (nw.node i).isService)

def coverableNodes (nw : Network) : List Nat := nw.allServiceNodes ++ nw.maintNodes

def numberOfServiceNodes (nw : Network) : Nat := (nw.idxsWhere Node.isService).length

/-- the node set of the per-type indices: services of the type, all slots, all depot nodes -/
def inTypeIndex (nw : Network) (vt : Nat) (i : Nat) : Bool :=
  let n := nw.node i
  (n.isService && n.vt == vt) || n.isMaint || n.isDepot

def typeIndex (nw : Network) (vt : Nat) : List Nat := nw.allIdx.filter (nw.inTypeIndex vt)

/-- `vehicle_type_nodes_sorted_by_start[vt].values()` -/
def typeNodesSortedByStart (nw : Network) (vt : Nat) : List Nat :=
  (nw.typeIndex vt).mergeSort
    (fun a b => !(keyLt (nw.node b).startT (nw.node b) (nw.node a).startT (nw.node a)))

def typeNodesSortedByEnd (nw : Network) (vt : Nat) : List Nat :=
  (nw.typeIndex vt).mergeSort
    (fun a b => !(keyLt (nw.node b).endT (nw.node b) (nw.node a).endT (nw.node a)))

/-- `NodeIdx::smallest()` = `StartDepot(0)` -/
def smallestNode : Node := { kind := .startDepot, idx := 0, startT := .earliest, endT := .earliest,
                             startLoc := .nowhere, endLoc := .nowhere }

/-- `NodeIdx::largest()` = `EndDepot(Idx::MAX)` -/
def largestNode : Node := { kind := .endDepot, idx := 65535, startT := .latest, endT := .latest,
                            startLoc := .nowhere, endLoc := .nowhere }

/-- `Network::successors`: `range((end_time(node), smallest)..)` then `can_reach` -/
def successors (nw : Network) (vt : Nat) (a : Nat) : List Nat :=
  ((nw.typeNodesSortedByStart vt).filter
      (fun i => !(keyLt (nw.node i).startT (nw.node i) (nw.node a).endT smallestNode))).filter
    (fun i => nw.canReach a i)

/-- `Network::predecessors`: `range(..=(start_time(node), largest))` then `can_reach`
    (the pinned tree had the exclusive bound `..(start_time(node), smallest)`, finding F1). -/
def predecessors (nw : Network) (vt : Nat) (b : Nat) : List Nat :=
  ((nw.typeNodesSortedByEnd vt).filter
      (fun i => !(keyLt (nw.node b).startT largestNode (nw.node i).endT (nw.node i)))).filter
    (fun i => nw.canReach i b)

/-- the pinned (pre-fix) variant, kept for the witness theorem of F1 -/
def predecessorsPinned (nw : Network) (vt : Nat) (b : Nat) : List Nat :=
  ((nw.typeNodesSortedByEnd vt).filter
      (fun i => keyLt (nw.node i).endT (nw.node i) (nw.node b).startT smallestNode)).filter
    (fun i => nw.canReach i b)

/-! #### capacities, demand -/
/-- `Depot::capacity_for` -/
def depotCapacityFor (d : Depot) (vt : Nat) : Nat :=
  match assocGet? d.allowed vt with
  | some (some c) => Nat.min c d.total
  | some none => d.total
  | none => 0

def capacityOf (nw : Network) (d vt : Nat) : Nat := depotCapacityFor (nw.depot d) vt
def totalCapacityOf (nw : Network) (d : Nat) : Nat := (nw.depot d).total

def divCeil (a b : Nat) : Nat := (a + b - 1) / b

/-- `number_of_vehicles_required_to_serve` -/
def requiredVehicles (nw : Network) (vt : Nat) (trip : Nat) : Nat :=
  let n := nw.node trip
  let t := nw.vtype vt
  Nat.max (divCeil n.pax t.capacity) (divCeil n.seated t.seats)

def optMin : Option Nat → Option Nat → Option Nat
  | some a, some b => some (Nat.min a b)
  | some a, none => some a
  | none, b => b

/-- `maximal_formation_count_for` (after the F3 repair: the `Option` minimum of both limits) -/
def maxFormationFor (nw : Network) (trip : Nat) : Option Nat :=
  optMin (nw.vtype (nw.node trip).vt).maxForm (nw.node trip).maxForm

/-- the pinned variant: `limit_of_type.map(|l| l.min(limit_of_node.unwrap_or(l)))` -/
def maxFormationForPinned (nw : Network) (trip : Nat) : Option Nat :=
  (nw.vtype (nw.node trip).vt).maxForm.map (fun l => Nat.min l ((nw.node trip).maxForm.getD l))

def compatibleWithType (nw : Network) (i vt : Nat) : Bool :=
  if (nw.node i).isService then (nw.node i).vt == vt else true

def startDepotNodeOf (_nw : Network) (d : Nat) : Nat := 2 * d
def endDepotNodeOf (_nw : Network) (d : Nat) : Nat := 2 * d + 1
def depotIdxOf (nw : Network) (i : Nat) : Nat := (nw.node i).depot

/-- stable sort by a `Dist` key (`sort_by_key` is stable, and so is `mergeSort`) -/
def sortByDist (key : Nat → Dist) (l : List Nat) : List Nat :=
  l.mergeSort (fun a b => Dist.le (key a) (key b))

def startDepotsSortedByDistanceTo (nw : Network) (loc : Loc) : List Nat :=
  sortByDist (fun d => nw.distance (nw.node d).startLoc loc) nw.startDepotNodes

def endDepotsSortedByDistanceFrom (nw : Network) (loc : Loc) : List Nat :=
  sortByDist (fun d => nw.distance loc (nw.node d).startLoc) nw.endDepotNodes

end Network

/-! ### load -/
namespace Instance

def route (i : Instance) (r : Nat) : Route := i.routes.getD r default

/-- all (departure, departure segment) pairs in input order with their route segment -/
def flatSegs (i : Instance) : List (Route × RSeg × DSeg) :=
  i.departures.flatMap (fun d =>
    d.segs.map (fun s => (i.route d.route, (i.route d.route).segs.getD s.rseg default, s)))

/-- `determine_planning_days`: ⌈(latest − earliest)/86400⌉·86400. `none` = the Rust panic when
    there is no activity at all (`Earliest − Latest`). -/
def planning? (i : Instance) : Option Nat :=
  let starts := i.maint.map (·.start) ++ i.flatSegs.map (fun x => x.2.2.departure)
  let ends := i.maint.map (·.stop) ++ i.flatSegs.map (fun x => x.2.2.departure + x.2.1.duration)
  match starts, ends with
  | s :: ss, e :: es =>
    let lo := ss.foldl Nat.min s
    let hi := es.foldl Nat.max e
    some (Network.divCeil (hi - lo) 86400 * 86400)
  | _, _ => none

def planning (i : Instance) : Nat := i.planning?.getD 0

/-- `create_locations`: capped matrices -/
def loadMatrix (idx : List Nat) (rows : List (List Nat)) (cap : Nat) :
    List (Nat × List (Nat × Nat)) :=
  (idx.zip rows).map (fun (o, row) => (o, (idx.zip row).map (fun (d, v) => (d, Nat.min v cap))))

/-- `create_depots` + the overflow depot of `Network::new`. -/
def loadDepots (i : Instance) (nService : Nat) (overflowCap : Nat) : List Depot :=
  let given : List Depot :=
    match i.depots with
    | some ds => ds.map (fun d => { loc := .station d.loc, total := d.capacity, allowed := d.allowed })
    | none => i.defaultOrder.map (fun l =>
        { loc := .station l, total := nService,
          allowed := (List.range i.vtypes.length).map (fun vt => (vt, none)) })
  given ++ [{ loc := .nowhere, total := overflowCap,
              allowed := (List.range i.vtypes.length).map (fun vt => (vt, none)) }]

/-- overflow capacity after the F4 repair: `Idx::MAX` (no more vehicles than ids can exist) -/
def overflowCap (_i : Instance) : Nat := 65535

/-- the pinned formula: `#service trips · max over types of (limit or 1)` -/
def overflowCapPinned (i : Instance) : Nat :=
  i.flatSegs.length * ((i.vtypes.map (fun t => t.maxForm.getD 1)).foldl Nat.max 0 |> fun m =>
    if i.vtypes.isEmpty then 1 else m)

def depotNodes (ds : List Depot) : List Node :=
  (List.range ds.length).flatMap (fun k =>
    let d := ds.getD k default
    [ { kind := .startDepot, idx := 2 * k, startT := .earliest, endT := .earliest,
        startLoc := d.loc, endLoc := d.loc, depot := k },
      { kind := .endDepot, idx := 2 * k + 1, startT := .latest, endT := .latest,
        startLoc := d.loc, endLoc := d.loc, depot := k } ])

/-- service trips grouped by vehicle type in type order, input order inside a type
    (`create_service_trips`, then the `for vehicle_type in vehicle_types.iter()` loop). -/
def serviceNodesFrom (i : Instance) (first : Nat) : List Node :=
  let grouped := (List.range i.vtypes.length).flatMap (fun vt =>
    i.flatSegs.filter (fun x => x.1.vt == vt))
  (List.range grouped.length).map (fun k =>
    let (r, rs, ds) := grouped.getD k default
    { kind := .service, idx := first + k,
      startT := .point ds.departure, endT := .point (ds.departure + rs.duration),
      startLoc := .station rs.origin, endLoc := .station rs.dest,
      vt := r.vt, dist := rs.distance,
      pax := if ds.passengers = 0 then 1 else ds.passengers,
      seated := ds.seated, maxForm := rs.maxForm })

def maintNodesFrom (i : Instance) (first : Nat) : List Node :=
  (List.range i.maint.length).map (fun k =>
    let m := i.maint.getD k default
    { kind := .maint, idx := first + k, startT := .point m.start, endT := .point m.stop,
      startLoc := .station m.loc, endLoc := .station m.loc, tracks := m.tracks })

def loadWith (i : Instance) (ovCap : Nat) : Network :=
  let nService := i.flatSegs.length
  let ds := i.loadDepots nService ovCap
  let dn := depotNodes ds
  let sn := i.serviceNodesFrom dn.length
  let mn := i.maintNodesFrom (dn.length + sn.length)
  { nodes := (dn ++ sn ++ mn).toArray
    vtypes := i.vtypes.toArray
    depots := ds.toArray
    nLocs := i.nLocs
    dhDur := loadMatrix i.dhIdx i.dhDur i.planning
    dhDist := loadMatrix i.dhIdx i.dhDist Dist.MAX_DISTANCE
    forbidDH := i.forbidDH, shuntMin := i.shuntMin, shuntDH := i.shuntDH, maxDist := i.maxDist
    cStaff := i.cStaff, cService := i.cService, cMaint := i.cMaint, cDH := i.cDH, cIdle := i.cIdle
    planning := i.planning }

def load (i : Instance) : Network := i.loadWith i.overflowCap

end Instance
end RSSched
