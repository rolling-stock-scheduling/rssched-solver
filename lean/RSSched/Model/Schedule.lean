/-
Model/Schedule: solution/src/schedule.rs (constructors, depot capacity checks) and
solution/src/schedule/modifications.rs — every public modification and the private helpers they
call, function by function, with the `Result::Err`s and the panics (`unwrap`, `expect`, index,
unsigned subtraction) of the Rust code as explicit faults. `self` is the schedule before the call.
-/
import RSSched.Model.ScheduleBase
import RSSched.Model.Formation
namespace RSSched
open Network

abbrev DepotUsage := List ((Nat × Nat) × (List Veh × List Veh))

namespace Schedule

def vehInsert (l : List Veh) (v : Veh) : List Veh :=
  if l.contains v then l else insertSorted Veh.lt v l

def usageGet (u : DepotUsage) (d vt : Nat) : List Veh × List Veh := (assocGet? u (d, vt)).getD ([], [])

def spawnedCount (u : DepotUsage) (d vt : Nat) : Nat := (usageGet u d vt).1.length

def spawnedTotal (nw : Network) (u : DepotUsage) (d : Nat) : Nat :=
  sumNat (nw.typeIdxs.map (fun vt => spawnedCount u d vt))

/-- `can_depot_spawn_vehicle_custom_usage` -/
def canDepotSpawn (nw : Network) (u : DepotUsage) (startDepotNode vt : Nat) : Bool :=
  let d := nw.depotIdxOf startDepotNode
  let cap := nw.capacityOf d vt
  if cap == 0 then false
  else if spawnedCount u d vt ≥ cap then false
  else if spawnedTotal nw u d ≥ nw.totalCapacityOf d then false
  else true

/-- `find_best_start_depot_for_spawning` -/
def findBestStartDepot (nw : Network) (u : DepotUsage) (vt firstNode : Nat) : R Nat :=
  match (nw.startDepotsSortedByDistanceTo (nw.node firstNode).startLoc).find? (fun d => canDepotSpawn nw u d vt) with
  | some d => pure d
  | none => .error (.panic "There should be at least the overflow depot available.")

/-- `find_best_end_depot_for_despawning` -/
def findBestEndDepot (nw : Network) (lastNode : Nat) : R Nat :=
  match (nw.endDepotsSortedByDistanceFrom (nw.node lastNode).endLoc).head? with
  | some d => pure d
  | none => .error (.err "No end_depot available.")

/-- `add_suitable_start_and_end_depot_to_path` (repaired, finding F15) -/
def addSuitableDepots (nw : Network) (s : Schedule) (vt : Nat) (nodes : List Nat) : R (List Nat) := do
  let first ← unwrapO nodes.head? "nodes.first().unwrap()"
  let last ← unwrapO nodes.getLast? "nodes.last().unwrap()"
  if (nw.node first).isDepot && !(canDepotSpawn nw s.depotUsage first vt) then
    let ovf := nw.overflowDepot
    let n1 := nodes.set 0 (nw.startDepotNodeOf ovf)
    if (nw.node last).isDepot then pure (n1.set (n1.length - 1) (nw.endDepotNodeOf ovf))
    else pure (n1 ++ [nw.endDepotNodeOf ovf])
  else
  let n1 ← if !(nw.node first).isDepot then do
      let d ← findBestStartDepot nw s.depotUsage vt first
      pure (d :: nodes)
    else pure nodes
  if !(nw.node last).isDepot then do
    let d ← findBestEndDepot nw last
    pure (n1 ++ [d])
  else pure n1

/-- type of a vehicle, looked up first in the new vehicle map then in the old one -/
def typeIn (vehicles : List (Veh × Nat)) (s : Schedule) (v : Veh) : Option Nat :=
  match assocGet? vehicles v with
  | some t => some t
  | none => s.typeOf? v

def unservedOf (nw : Network) (typeOf : Veh → Option Nat) (node : Nat) (f : List Veh) : Nat × Nat :=
  Schedule.unservedAt nw node (f.filterMap typeOf)

/-- `vehicle_replacement_in_train_formation` -/
def vehicleReplacement (nw : Network) (s : Schedule) (forms : List (Nat × List Veh))
    (provider receiver : Option Veh) (node : Nat) : R (List Veh) := do
  let old ← unwrapO (assocGet? forms node) "Node has no train formations."
  match receiver with
  | some r =>
    if !(s.isDummy r) then
      match provider with
      | some p =>
        if !(s.isDummy p) then Formation.replace old p r
        else addChecked old r
      | none => addChecked old r
    else removeOnly old
  | none => removeOnly old
where
  addChecked (old : List Veh) (r : Veh) : R (List Veh) :=
    if (nw.node node).isMaint && old.length ≥ (nw.node node).tracks then
      .error (.err "Maintenance slot is already full.")
    else if (nw.node node).isService &&
        (match nw.maxFormationFor node with | some l => old.length ≥ l | none => false) then
      .error (.err "Formation is full.")
    else pure (Formation.addAtTail old r)
  removeOnly (old : List Veh) : R (List Veh) :=
    match provider with
    | some p => if !(s.isDummy p) then Formation.remove old p else pure old
    | none => pure old

/-- `update_train_formation` -/
def updateTrainFormation (nw : Network) (s : Schedule) (typeOf : Veh → Option Nat)
    (forms : List (Nat × List Veh)) (unserved : Nat × Nat)
    (provider receiver : Option Veh) : List Nat → R (List (Nat × List Veh) × (Nat × Nat))
  | [] => pure (forms, unserved)
  | node :: rest =>
    if (nw.node node).isDepot then updateTrainFormation nw s typeOf forms unserved provider receiver rest else do
    let isSvc := (nw.node node).isService
    let u1 ← if isSvc then do
        let old ← unwrapO (assocGet? forms node) "train_formations.get(node).unwrap()"
        let b := unservedOf nw typeOf node old
        let a ← Tour.subNat unserved.1 b.1 "unserved_passengers underflow"
        let c ← Tour.subNat unserved.2 b.2 "unserved_passengers underflow"
        pure (a, c)
      else pure unserved
    let f' ← vehicleReplacement nw s forms provider receiver node
    let forms' := assocSet forms node f'
    let u2 := if isSvc then
        let a := unservedOf nw typeOf node f'
        (u1.1 + a.1, u1.2 + a.2)
      else u1
    updateTrainFormation nw s typeOf forms' u2 provider receiver rest

def usageModify (u : DepotUsage) (d vt : Nat) (f : List Veh × List Veh → List Veh × List Veh) : DepotUsage :=
  assocSet u (d, vt) (f (usageGet u d vt))

/-- `update_depot_usage_for_new_start_depot` / `…_end_depot` (`isStart` selects the set) -/
def updateUsageSide (nw : Network) (s : Schedule) (u : DepotUsage) (v : Veh) (vt : Nat)
    (isStart : Bool) (newDepotNode : Option Nat) : R DepotUsage := do
  let u1 ← if s.isVehicle v then do
      let t ← unwrapO (s.tourOf? v) "tour_of(vehicle).unwrap()"
      let dn ← if isStart then Transition.startDepotU nw t else Transition.endDepotU nw t
      let d := nw.depotIdxOf dn
      let cur := usageGet u d vt
      let set := if isStart then cur.1 else cur.2
      if !(set.contains v) then .error (.panic "depot_usage: remove(&vehicle_id).unwrap()") else
      pure (usageModify u d vt (fun p => if isStart then (p.1.filter (· != v), p.2) else (p.1, p.2.filter (· != v))))
    else pure u
  match newDepotNode with
  | some dn =>
    let d := nw.depotIdxOf dn
    pure (usageModify u1 d vt (fun p => if isStart then (vehInsert p.1 v, p.2) else (p.1, vehInsert p.2 v)))
  | none => pure u1

/-- `update_depot_usage` -/
def updateDepotUsage (nw : Network) (s : Schedule) (u : DepotUsage) (vehicles : List (Veh × Nat))
    (tours : Tours) (v : Veh) : R DepotUsage :=
  let go (vt : Nat) (newTour : Option Tour) : R DepotUsage := do
    let ns ← match newTour with
      | some t => do let d ← Transition.startDepotU nw t; pure (some d)
      | none => pure none
    let ne ← match newTour with
      | some t => do let d ← Transition.endDepotU nw t; pure (some d)
      | none => pure none
    let u1 ← updateUsageSide nw s u v vt true ns
    updateUsageSide nw s u1 v vt false ne
  match assocGet? vehicles v with
  | some vt => go vt (assocGet? tours v)
  | none =>
    match s.typeOf? v with
    | some vt => go vt none
    | none => pure u

/-- `update_transitions_and_violation_fast` -/
def updateTransitionsFast (nw : Network) (s : Schedule) (vehicles : List (Veh × Nat)) (tours : Tours) :
    List Veh → Tours → List (Nat × Transition) → Int → R (List (Nat × Transition) × Int)
  | [], _, trans, viol => pure (trans, viol)
  | v :: rest, updated, trans, viol =>
    if v.dummy then updateTransitionsFast nw s vehicles tours rest updated trans viol else do
    let vt ← unwrapO (typeIn vehicles s v) "vehicles.get(vehicle).unwrap()"
    let old ← unwrapO (assocGet? trans vt) "transitions.get(&vehicle_type).unwrap()"
    let inNew := (assocGet? vehicles v).isSome
    let (new, updated') ← match s.isVehicle v, inNew with
      | true, true => do
        let nt ← unwrapO (assocGet? tours v) "tours.get(vehicle).unwrap()"
        let tr ← Transition.updateVehicle nw old v nt updated s.tours
        pure (tr, assocSet updated v nt)
      | false, true => do
        let nt ← unwrapO (assocGet? tours v) "tours.get(vehicle).unwrap()"
        let tr ← Transition.addVehicleToOwnCycle nw old v nt
        pure (tr, assocSet updated v nt)
      | true, false => do
        let tr ← Transition.removeVehicle nw old v updated s.tours
        pure (tr, updated)
      | false, false => .error (.panic "unreachable!()")
    updateTransitionsFast nw s vehicles tours rest updated' (assocSet trans vt new)
      ((viol + new.totalViolation) - old.totalViolation)

/-- `recompute_transitions_and_violation_fast` -/
def recomputeTransitions (nw : Network) (idsByType : List (Nat × List Veh)) (tours : Tours) :
    List Nat → List (Nat × Transition) → Int → R (List (Nat × Transition) × Int)
  | [], trans, viol => pure (trans, viol)
  | vt :: rest, trans, viol => do
    let ids ← unwrapO (assocGet? idsByType vt) "vehicle_ids_grouped_by_type.get(vehicle_type).unwrap()"
    let new ← Transition.newFast nw ids tours
    let old ← unwrapO (assocGet? trans vt) "Each vehicle type must be a key in transitions."
    recomputeTransitions nw idsByType tours rest (assocSet trans vt new) (viol + new.totalViolation - old.totalViolation)

def idsInsert (ids : List (Nat × List Veh)) (vt : Nat) (v : Veh) : R (List (Nat × List Veh)) := do
  let l ← unwrapO (assocGet? ids vt) "vehicle_ids_grouped_and_sorted[&vehicle_type]"
  pure (assocSet ids vt (insertSorted Veh.lt v l))

def idsRemove (ids : List (Nat × List Veh)) (vt : Nat) (v : Veh) : R (List (Nat × List Veh)) := do
  let l ← unwrapO (assocGet? ids vt) "vehicle_ids_grouped_and_sorted[&vehicle_type]"
  if !(l.contains v) then .error (.panic "binary_search(&vehicle_idx).unwrap()") else
  pure (assocSet ids vt (l.filter (· != v)))

/-- `Schedule::empty` -/
def empty (nw : Network) : Schedule :=
  let forms := nw.coverableNodes.map (fun n => (n, ([] : List Veh)))
  let un := nw.allServiceNodes.map (fun n => Schedule.unservedAt nw n [])
  { vehicles := [], tours := []
    transitions := nw.typeIdxs.map (fun vt => (vt, { cycles := [], totalViolation := 0, totalCounter := 0, lookup := [], empty := [] }))
    formations := forms, depotUsage := [], dummyTours := [], counter := 0
    idsByType := nw.typeIdxs.map (fun vt => (vt, []))
    dummyIds := []
    unserved := (sumNat (un.map (·.1)), sumNat (un.map (·.2)))
    violation := 0
    costs := nw.numberOfServiceNodes * nw.cStaff }

/-- `spawn_vehicle_for_path` -/
def spawnVehicleForPath (nw : Network) (s : Schedule) (vt : Nat) (path : List Nat) : R (Schedule × Veh) := do
  if path.any (fun n => !(nw.compatibleWithType n vt)) then .error (.err "Nodes are not compatible with vehicle type.") else
  let nodes ← addSuitableDepots nw s vt path
  let v := Veh.real s.counter
  let tour ← Tour.new nw nodes
  let vehicles := assocSet s.vehicles v vt
  let ids ← idsInsert s.idsByType vt v
  let (forms, unserved) ← updateTrainFormation nw s (typeIn vehicles s) s.formations s.unserved none (some v) tour.nodes
  let costs := s.costs + tour.costs
  let tours := assocSet s.tours v tour
  let usage ← updateDepotUsage nw s s.depotUsage vehicles tours v
  let (trans, viol) ← updateTransitionsFast nw s vehicles tours [v] [] s.transitions s.violation
  pure ({ s with vehicles, tours, transitions := trans, formations := forms, depotUsage := usage,
                 counter := s.counter + 1, idsByType := ids, unserved, violation := viol, costs }, v)

/-- `delete_dummy` -/
def deleteDummy (s : Schedule) (d : Veh) : R Schedule :=
  if !(s.isDummy d) then .error (.err "It is not a dummy vehicle.") else
  if !(s.dummyIds.contains d) then .error (.panic "dummy_ids_sorted.binary_search(&dummy).unwrap()") else
  pure { s with dummyTours := assocErase s.dummyTours d, dummyIds := s.dummyIds.filter (· != d) }

/-- `spawn_vehicle_to_replace_dummy_tour` -/
def spawnToReplaceDummy (nw : Network) (s : Schedule) (d : Veh) (vt : Nat) : R (Schedule × Veh) := do
  let t ← match assocGet? s.dummyTours d with
    | some t => pure t
    | none => .error (.err "Dummy tour does not exist.")
  if t.nodes.any (fun n => !(nw.compatibleWithType n vt)) then .error (.err "Nodes are not compatible with vehicle type.") else
  let s1 ← deleteDummy s d
  spawnVehicleForPath nw s1 vt t.nodes

def addDummyTour (dummyTours : Tours) (dummyIds : List Veh) (d : Veh) (t : Tour) : Tours × List Veh :=
  (assocSet dummyTours d t, if dummyIds.contains d then dummyIds else insertSorted Veh.lt d dummyIds)

/-- `replace_vehicle_by_dummy` -/
def replaceVehicleByDummy (nw : Network) (s : Schedule) (v : Veh) : R Schedule := do
  if !(s.isVehicle v) then .error (.err "Cannot delete vehicle from schedule.") else
  let vt ← match s.typeOf? v with | some t => pure t | none => .error (.err "not a vehicle")
  let vehicles := assocErase s.vehicles v
  let ids ← idsRemove s.idsByType vt v
  let tour ← unwrapO (assocGet? s.tours v) "tours.get(&vehicle_idx).unwrap()"
  let (forms, unserved) ← updateTrainFormation nw s (typeIn vehicles s) s.formations s.unserved (some v) none tour.nodes
  let tours := assocErase s.tours v
  let usage ← updateDepotUsage nw s s.depotUsage vehicles tours v
  let costs ← Tour.subNat s.costs tour.costs "costs underflow"
  let f ← tour.firstNode
  let l ← tour.lastNode
  let sub ← match Tour.subPath nw tour f l with
    | .ok p => pure p
    | .error (.err m) => .error (.err m)
    | .error e => .error e
  let (dummyTours, dummyIds, counter) := match Tour.newDummy nw sub with
    | .ok dt =>
      let (a, b) := addDummyTour s.dummyTours s.dummyIds (Veh.dum s.counter) dt
      (a, b, s.counter + 1)
    | .error _ => (s.dummyTours, s.dummyIds, s.counter)
  let (trans, viol) ← updateTransitionsFast nw s vehicles tours [v] [] s.transitions s.violation
  pure { s with vehicles, tours, transitions := trans, formations := forms, depotUsage := usage,
                dummyTours, counter, idsByType := ids, dummyIds, unserved, violation := viol, costs }

/-- `add_path_to_vehicle_tour` (real receivers; a dummy receiver hits `vehicles.get(..).unwrap()`) -/
def addPathToVehicleTour (nw : Network) (s : Schedule) (v : Veh) (path : List Nat) : R (Schedule × Option (List Nat)) := do
  match s.typeOf? v with
  | some vt => if path.any (fun n => !(nw.compatibleWithType n vt)) then
      (.error (.err "Nodes are not compatible with vehicle type.") : R Unit) else pure ()
  | none => pure ()
  let first ← idxAt path 0
  if (nw.node first).isDepot then do
    let t ← unwrapO (s.tourOf? v) "tour_of(vehicle_idx).unwrap()"
    let oldStart ← Transition.startDepotU nw t
    if first != oldStart then
      let vt ← unwrapO (s.typeOf? v) "Vehicle must be real, as it starts with a depot"
      if !(canDepotSpawn nw s.depotUsage first vt) then
        (.error (.err "New start depot has no capacity available.") : R Unit) else pure ()
    else pure ()
  else pure ()
  if !(s.isVehicle v) then .error (.panic "self.vehicles.get(&vehicle_idx).cloned().unwrap()") else
  let (forms1, un1) ← updateTrainFormation nw s (typeIn s.vehicles s) s.formations s.unserved none (some v) path
  let old ← unwrapO (assocGet? s.tours v) "tours.get(&vehicle_idx).unwrap()"
  let (newTour, removed) ← Tour.insertPath nw true old path
  let (forms, unserved) ← match removed with
    | some rp => updateTrainFormation nw s (typeIn s.vehicles s) forms1 un1 (some v) none rp
    | none => pure (forms1, un1)
  let costs ← Tour.subNat (s.costs + newTour.costs) old.costs "costs underflow"
  let tours := assocSet s.tours v newTour
  let usage ← updateDepotUsage nw s s.depotUsage s.vehicles tours v
  let (trans, viol) ← updateTransitionsFast nw s s.vehicles tours [v] [] s.transitions s.violation
  pure ({ s with tours, transitions := trans, formations := forms, depotUsage := usage, unserved, violation := viol, costs }, removed)

/-- `update_tour_and_costs` -/
def updateTourAndCosts (s : Schedule) (tours dummyTours : Tours) (costs : Nat) (v : Veh) (t : Tour) :
    R (Tours × Tours × Nat) :=
  if s.isDummy v then pure (tours, assocSet dummyTours v t, costs) else do
    let old ← unwrapO (assocGet? tours v) "tours.get(&vehicle).unwrap()"
    let c ← Tour.subNat (costs + t.costs) old.costs "costs underflow"
    pure (assocSet tours v t, dummyTours, c)

/-- `remove_segment` -/
def removeSegment (nw : Network) (s : Schedule) (v : Veh) (a b : Nat) : R Schedule := do
  if !(s.isVehicle v) then .error (.err "Vehicle is not a real vehicle.") else
  let tour ← unwrapO (s.tourOf? v) "tour_of(vehicle_idx).unwrap()"
  let (shrunk, removed) ← Tour.remove nw tour a b
  match shrunk with
  | none => replaceVehicleByDummy nw s v
  | some newTour => do
    let (forms, unserved) ← updateTrainFormation nw s (typeIn s.vehicles s) s.formations s.unserved (some v) none removed
    let (tours, dummy0, costs) ← updateTourAndCosts s s.tours s.dummyTours s.costs v newTour
    let usage ← updateDepotUsage nw s s.depotUsage s.vehicles tours v
    let (dummyTours, dummyIds, counter) := match Tour.newDummy nw removed with
      | .ok dt =>
        let (x, y) := addDummyTour dummy0 s.dummyIds (Veh.dum s.counter) dt
        (x, y, s.counter + 1)
      | .error _ => (dummy0, s.dummyIds, s.counter)
    let (trans, viol) ← updateTransitionsFast nw s s.vehicles tours [v] [] s.transitions s.violation
    pure { s with tours, transitions := trans, formations := forms, depotUsage := usage, dummyTours,
                  counter, dummyIds, unserved, violation := viol, costs }

/-- `check_receiver_type_compatibility` (repaired, finding F10) -/
def checkReceiverTypeCompat (nw : Network) (s : Schedule) (p r : Veh) (a b : Nat) : R Bool := do
  match s.typeOf? r with
  | none => pure true
  | some rvt =>
    if s.typeOf? p == some rvt then pure true else do
    let pt ← unwrapO (s.tourOf? p) "tour_of(provider).unwrap()"
    let path ← match Tour.subPath nw pt a b with
      | .ok x => pure x
      | .error (.err _) => .error (.panic "sub_path(segment).unwrap()")
      | .error e => .error e
    if path.any (fun n => !(nw.compatibleWithType n rvt)) then pure false else
    let first ← idxAt path 0
    if (nw.node first).isStartDepot then do
      let rt ← unwrapO (s.tourOf? r) "tour_of(receiver).unwrap()"
      let same := match rt.startDepot nw with | .ok d => d == first | .error _ => false
      if !same then
        let d := nw.depotIdxOf first
        if spawnedCount s.depotUsage d rvt ≥ nw.capacityOf d rvt then pure false else pure true
      else pure true
    else pure true

structure Work where
  vehicles : List (Veh × Nat)
  tours : Tours
  forms : List (Nat × List Veh)
  usage : DepotUsage
  dummyTours : Tours
  ids : List (Nat × List Veh)
  dummyIds : List Veh
  unserved : Nat × Nat
  costs : Nat

def Work.ofSchedule (s : Schedule) : Work :=
  { vehicles := s.vehicles, tours := s.tours, forms := s.formations, usage := s.depotUsage,
    dummyTours := s.dummyTours, ids := s.idsByType, dummyIds := s.dummyIds, unserved := s.unserved, costs := s.costs }

/-- `update_tours` -/
def updateTours (nw : Network) (s : Schedule) (w : Work) (provider : Option Veh) (newProv : Option Tour)
    (receiver : Veh) (newRecv : Tour) (moved : List Nat) : R Work := do
  let w1 ← match provider with
    | none => pure w
    | some p => do
      let w' ← match newProv with
        | some t => do
          let (tours, dummyTours, costs) ← updateTourAndCosts s w.tours w.dummyTours w.costs p t
          pure { w with tours, dummyTours, costs }
        | none => do
          let costs ← if s.isVehicle p then do
              let t ← unwrapO (s.tourOf? p) "tour_of(provider_id).unwrap()"
              Tour.subNat w.costs t.costs "costs underflow"
            else pure w.costs
          if s.isDummy p then
            if !(w.dummyIds.contains p) then .error (.panic "dummy_ids_sorted.binary_search(&provider_id).unwrap()") else
            pure { w with costs, dummyTours := assocErase w.dummyTours p, dummyIds := w.dummyIds.filter (· != p) }
          else if s.isVehicle p then do
            let pvt ← unwrapO (s.typeOf? p) "vehicle_type_of(provider_id).unwrap()"
            let ids ← idsRemove w.ids pvt p
            pure { w with costs, vehicles := assocErase w.vehicles p, tours := assocErase w.tours p, ids }
          else pure { w with costs }
      let usage ← updateDepotUsage nw s w'.usage w'.vehicles w'.tours p
      pure { w' with usage }
  let (tours, dummyTours, costs) ← updateTourAndCosts s w1.tours w1.dummyTours w1.costs receiver newRecv
  let usage ← updateDepotUsage nw s w1.usage w1.vehicles tours receiver
  let recvVeh := if s.isVehicle receiver then some receiver else none
  let (forms, unserved) ← updateTrainFormation nw s (typeIn w1.vehicles s) w1.forms w1.unserved provider recvVeh moved
  pure { w1 with tours, dummyTours, costs, usage, forms, unserved }

/-- the `while let Some(path) = remaining_path` loop of `fit_path_into_tour`, bounded by fuel -/
def fitLoop (nw : Network) (checkPath : Bool) : Nat → Option Tour → Tour → Option (List Nat) → List Nat → R (Option Tour × Tour × List Nat)
  | 0, prov, recv, _, moved => pure (prov, recv, moved)
  | fuel + 1, prov, recv, remaining, moved =>
    match remaining with
    | none => pure (prov, recv, moved)
    | some path => do
      let start ← idxAt path 0
      let (endPos, segEnd) ← match ← Tour.latestNotReachingNode nw true recv start with
        | none => do
          let l ← idxAt path (path.length - 1)
          pure (path.length - 1, l)
        | some pos => do
          let blocker ← unwrapO recv.nodes[pos]? "nth_node(pos).unwrap()"
          let cand := ((List.range path.length).zip path).takeWhile
            (fun (_, n) => !(ExtTime.lt (nw.node blocker).startT (nw.node n).endT))
          let p ← unwrapO prov "new_tour_provider.as_ref().unwrap()"
          let ok := cand.filter (fun (_, n) => nw.canReach n blocker &&
            (match Tour.checkRemovable nw p start n with | .ok _ => true | .error _ => false))
          pure (ok.getLast?.getD (0, start))
      let nodeSeq := path.take (endPos + 1)
      let rest := Tour.pathTrusted nw (path.drop (endPos + 1))
      let p ← unwrapO prov "new_tour_provider.as_ref().unwrap()"
      match Tour.remove nw p start segEnd with
      | .error (.err _) => fitLoop nw checkPath fuel prov recv rest moved
      | .error e => .error e
      | .ok (provCand, pathIns) =>
        -- (repaired, finding F18) a part of a dummy tour goes to a real vehicle only if it is a valid path
        if checkPath && !(Tour.isChain nw pathIns) then fitLoop nw checkPath fuel prov recv rest moved else do
        match ← Tour.conflict nw true recv start segEnd with
        | some _ => fitLoop nw checkPath fuel prov recv rest moved
        | none => do
          let (recv', _) ← Tour.insertPath nw true recv pathIns
          fitLoop nw checkPath fuel provCand recv' rest (moved ++ nodeSeq)

/-- `fit_reassign` -/
def fitReassign (nw : Network) (s : Schedule) (p r : Veh) (a b : Nat) : R Schedule := do
  if !(← checkReceiverTypeCompat nw s p r a b) then .error (.err "Vehicle types do not match.") else
  let pt ← unwrapO (s.tourOf? p) "tour_of(provider).unwrap()"
  let rt ← unwrapO (s.tourOf? r) "tour_of(receiver).unwrap()"
  let path ← Tour.subPath nw pt a b
  let (newProv, newRecv, moved) ← fitLoop nw (s.isDummy p && s.isVehicle r) (path.length + 1) (some pt) rt (some path) []
  let w ← updateTours nw s (Work.ofSchedule s) (some p) newProv r newRecv moved
  let (trans, viol) ← updateTransitionsFast nw s w.vehicles w.tours [p, r] [] s.transitions s.violation
  pure { s with vehicles := w.vehicles, tours := w.tours, transitions := trans, formations := w.forms,
                depotUsage := w.usage, dummyTours := w.dummyTours, idsByType := w.ids, dummyIds := w.dummyIds,
                unserved := w.unserved, violation := viol, costs := w.costs }

/-- `override_reassign` -/
def overrideReassign (nw : Network) (s : Schedule) (p r : Veh) (a b : Nat) : R (Schedule × Option Veh) := do
  if !(← checkReceiverTypeCompat nw s p r a b) then .error (.err "Vehicle types do not match.") else
  let pt ← unwrapO (s.tourOf? p) "tour_of(provider).unwrap()"
  let rt ← unwrapO (s.tourOf? r) "tour_of(receiver).unwrap()"
  let (shrunk, path) ← Tour.remove nw pt a b
  -- (repaired, finding F18) a slice of a dummy tour goes to a real vehicle only if it is a valid path
  if s.isDummy p && s.isVehicle r && !(Tour.isChain nw path) then .error (.err "Not a valid Path") else
  let (newRecv, replaced) ← Tour.insertPath nw true rt path
  let w ← updateTours nw s (Work.ofSchedule s) (some p) shrunk r newRecv path
  let (w2, counter, newDummy) ← match replaced with
    | none => pure (w, s.counter, (none : Option Veh))
    | some np => do
      let (forms, unserved) ← if s.isVehicle r then
          updateTrainFormation nw s (typeIn w.vehicles s) w.forms w.unserved (some r) none np
        else pure (w.forms, w.unserved)
      match Tour.newDummy nw np with
      | .ok dt =>
        let d := Veh.dum s.counter
        let (x, y) := addDummyTour w.dummyTours w.dummyIds d dt
        pure ({ w with forms, unserved, dummyTours := x, dummyIds := y }, s.counter + 1, some d)
      | .error _ => pure ({ w with forms, unserved }, s.counter, none)
  let (trans, viol) ← updateTransitionsFast nw s w2.vehicles w2.tours [p, r] [] s.transitions s.violation
  pure ({ s with vehicles := w2.vehicles, tours := w2.tours, transitions := trans, formations := w2.forms,
                 depotUsage := w2.usage, dummyTours := w2.dummyTours, counter, idsByType := w2.ids,
                 dummyIds := w2.dummyIds, unserved := w2.unserved, violation := viol, costs := w2.costs }, newDummy)

/-- `improve_depots_of_tour` -/
def improveDepotsOfTour (nw : Network) (t : Tour) (vt : Nat) (u : DepotUsage) : R Tour := do
  let fnd ← unwrapO t.firstNonDepot "first_non_depot().unwrap()"
  let ns ← findBestStartDepot nw u vt fnd
  let cur ← Transition.startDepotU nw t
  let t1 ← if ns != cur then unwrapR (t.replaceStartDepot nw ns) "replace_start_depot(..).unwrap()" else pure t
  let lnd ← unwrapO (t1.lastNonDepot nw) "last_non_depot().unwrap()"
  let ne ← unwrapR (findBestEndDepot nw lnd) "find_best_end_depot_for_despawning(..).unwrap()"
  let curE ← Transition.endDepotU nw t1
  if ne != curE then unwrapR (t1.replaceEndDepot nw ne) "replace_end_depot(..).unwrap()" else pure t1

/-- `improve_depots` -/
def improveDepots (nw : Network) (s : Schedule) (vs : Option (List Veh)) : R Schedule := do
  let all := vs.isNone
  let ids := vs.getD (s.vehiclesAll nw)
  -- first remove all considered vehicles from their depots
  let usage0 ← ids.foldlM (fun (u : DepotUsage) v => do
      let vt ← unwrapO (s.typeOf? v) "vehicle_type_of(vehicle_id).unwrap()"
      let t ← unwrapO (s.tourOf? v) "tour_of(vehicle_id).unwrap()"
      let sd ← Transition.startDepotU nw t
      let ed ← Transition.endDepotU nw t
      let d1 := nw.depotIdxOf sd
      let e1 ← unwrapO (assocGet? u (d1, vt)) "depot_usage.get_mut(..).unwrap()"
      if !(e1.1.contains v) then .error (.panic "depot_usage: remove(vehicle_id).unwrap()") else
      let u1 := assocSet u (d1, vt) (e1.1.filter (· != v), e1.2)
      let d2 := nw.depotIdxOf ed
      let e2 ← unwrapO (assocGet? u1 (d2, vt)) "depot_usage.get_mut(..).unwrap()"
      if !(e2.2.contains v) then .error (.panic "depot_usage: remove(vehicle_id).unwrap()") else
      pure (assocSet u1 (d2, vt) (e2.1, e2.2.filter (· != v)))) s.depotUsage
  let (tours, usage, costs) ← ids.foldlM (fun (acc : Tours × DepotUsage × Nat) v => do
      let (tours, u, costs) := acc
      let t ← unwrapO (s.tourOf? v) "tour_of(vehicle_id).unwrap()"
      let vt ← unwrapO (s.typeOf? v) "vehicle_type_of(vehicle_id).unwrap()"
      let nt ← improveDepotsOfTour nw t vt u
      let c ← Tour.subNat (costs + nt.costs) t.costs "costs underflow"
      let sd ← Transition.startDepotU nw nt
      let ed ← Transition.endDepotU nw nt
      let u1 := usageModify u (nw.depotIdxOf sd) vt (fun p => (vehInsert p.1 v, p.2))
      let u2 := usageModify u1 (nw.depotIdxOf ed) vt (fun p => (p.1, vehInsert p.2 v))
      pure (assocSet tours v nt, u2, c)) (s.tours, usage0, s.costs)
  let (trans, viol) ← if all then recomputeTransitions nw s.idsByType tours nw.typeIdxs s.transitions s.violation
    else updateTransitionsFast nw s s.vehicles tours ids [] s.transitions s.violation
  pure { s with tours, transitions := trans, depotUsage := usage, violation := viol, costs }

/-- `reassign_end_depots_greedily` -/
def reassignEndDepotsGreedily (nw : Network) (s : Schedule) : R Schedule := do
  let (tours, usage, costs) ← (s.vehiclesAll nw).foldlM (fun (acc : Tours × DepotUsage × Nat) v => do
      let (tours, u, costs) := acc
      let t ← unwrapO (s.tourOf? v) "tour_of(vehicle_id).unwrap()"
      let lnd ← unwrapO (t.lastNonDepot nw) "last_non_depot().unwrap()"
      let ne ← match (nw.endDepotsSortedByDistanceFrom (nw.node lnd).endLoc).head? with
        | some d => pure d
        | none => .error (.err "Cannot find end depot for vehicle.")
      let nt ← unwrapR (t.replaceEndDepot nw ne) "replace_end_depot(..).unwrap()"
      let c ← Tour.subNat (costs + nt.costs) t.costs "costs underflow"
      let tours' := assocSet tours v nt
      let u' ← updateDepotUsage nw s u s.vehicles tours' v
      pure (tours', u', c)) (s.tours, s.depotUsage, s.costs)
  let (trans, viol) ← recomputeTransitions nw s.idsByType tours nw.typeIdxs s.transitions s.violation
  pure { s with tours, transitions := trans, depotUsage := usage, violation := viol, costs }

/-- `recompute_transitions_for` -/
def recomputeTransitionsFor (nw : Network) (s : Schedule) (vts : Option (List Nat)) : R Schedule := do
  let (trans, viol) ← recomputeTransitions nw s.idsByType s.tours (vts.getD nw.typeIdxs) s.transitions s.violation
  pure { s with transitions := trans, violation := viol }

/-- `reassign_end_depots_consistent_with_transitions` -/
def reassignEndDepotsConsistent (nw : Network) (s : Schedule) : R Schedule := do
  let (tours, usage, costs) ← (s.vehiclesAll nw).foldlM (fun (acc : Tours × DepotUsage × Nat) v => do
      let (tours, u, costs) := acc
      let t ← unwrapO (s.tourOf? v) "tour_of(vehicle).unwrap()"
      let vt ← unwrapO (s.typeOf? v) "vehicle_type_of(vehicle).unwrap()"
      let tr ← unwrapO (assocGet? s.transitions vt) "next_period_transitions.get(&vehicle_type).unwrap()"
      let next ← Transition.successorOf tr v
      let ntour ← unwrapO (s.tourOf? next) "tour_of(next_vehicle).unwrap()"
      let sd ← Transition.startDepotU nw ntour
      let ne := nw.endDepotNodeOf (nw.depotIdxOf sd)
      let nt ← unwrapR (t.replaceEndDepot nw ne) "replace_end_depot(..).unwrap()"
      let c ← Tour.subNat (costs + nt.costs) t.costs "costs underflow"
      let tours' := assocSet tours v nt
      let u' ← updateDepotUsage nw s u s.vehicles tours' v
      pure (tours', u', c)) (s.tours, s.depotUsage, s.costs)
  let (trans, viol) ← updateTransitionsFast nw s s.vehicles tours (s.vehiclesAll nw) [] s.transitions s.violation
  pure { s with tours, transitions := trans, depotUsage := usage, violation := viol, costs }

/-- `set_next_day_transitions` (repaired, finding F12: the cached violation follows) -/
def setNextDayTransitions (s : Schedule) (trans : List (Nat × Transition)) : Schedule :=
  { s with transitions := trans, violation := sumInt (trans.map (fun p => p.2.totalViolation)) }

end Schedule
end RSSched
