/-
Model/Tour: solution/src/tour.rs, tour/modifications.rs, path.rs, segment.rs.
A tour is its node list plus the five cached aggregates. Every function mirrors the Rust function
of the same name, including index arithmetic and panics (`R`). `strict` selects the comparison of
the two binary searches: `true` is the repaired code (finding F2), `false` the pinned one.
-/
import RSSched.Model.Network
namespace RSSched
open Network

structure Tour where
  nodes : List Nat
  isDummy : Bool
  visitsMaint : Bool
  usefulDur : Dur
  serviceDist : Dist
  dhDist : Dist
  costs : Nat
  deriving Repr, DecidableEq, Inhabited

/-- `nodes[i]` with the Rust bounds check -/
def idxAt (l : List Nat) (i : Nat) : R Nat :=
  match l[i]? with
  | some x => .ok x
  | none => .error (.panic "index out of bounds")

namespace Network

/-- `Node::duration` for nodes with `start ≤ end` (guaranteed for loaded networks; checked per case by the driver) -/
def nodeDur (nw : Network) (i : Nat) : Dur :=
  match (nw.node i).duration with
  | .ok d => d
  | .error _ => .len 0

def secOrPlanning (nw : Network) (d : Dur) : Nat := d.inSec?.getD nw.planning

/-- `service_and_maintenance_costs_by_id` -/
def nodeCost (nw : Network) (i : Nat) : Nat :=
  nw.secOrPlanning (nw.nodeDur i) *
    (match (nw.node i).kind with
     | .service => nw.cService
     | .maint => nw.cMaint
     | _ => 0)

/-- `dead_head_and_idle_costs_between_two_nodes` -/
def linkCost (nw : Network) (a b : Nat) : Nat :=
  nw.secOrPlanning (nw.deadHeadTimeBetween a b) * nw.cDH +
  nw.secOrPlanning (nw.idleTimeBetween a b) * nw.cIdle

def sumDur (l : List Dur) : Dur := l.foldl Dur.add Dur.zero
def sumDist (l : List Dist) : Dist := l.foldl Dist.add Dist.zero

def usefulDurOf (nw : Network) (nodes : List Nat) : Dur := sumDur (nodes.map nw.nodeDur)
def serviceDistOf (nw : Network) (nodes : List Nat) : Dist :=
  sumDist (nodes.map (fun i => Dist.d (nw.node i).dist))
def dhDistOf (nw : Network) (nodes : List Nat) : Dist :=
  sumDist ((pairs nodes).map (fun p => nw.deadHeadDistanceBetween p.1 p.2))
def costsOf (nw : Network) (nodes : List Nat) : Nat :=
  sumNat (nodes.map nw.nodeCost) + sumNat ((pairs nodes).map (fun p => nw.linkCost p.1 p.2))
def visitsMaintOf (nw : Network) (nodes : List Nat) : Bool := nodes.any (fun i => (nw.node i).isMaint)

end Network

namespace Tour

/-- `Tour::new_computing` -/
def computing (nw : Network) (nodes : List Nat) (isDummy : Bool) : Tour :=
  { nodes, isDummy,
    visitsMaint := nw.visitsMaintOf nodes,
    usefulDur := nw.usefulDurOf nodes,
    serviceDist := nw.serviceDistOf nodes,
    dhDist := nw.dhDistOf nodes,
    costs := nw.costsOf nodes }

def len (t : Tour) : Nat := t.nodes.length
def firstNode (t : Tour) : R Nat := idxAt t.nodes 0
def lastNode (t : Tour) : R Nat := idxAt t.nodes (t.nodes.length - 1)

/-- `all_non_depot_nodes_iter`: for real tours `nodes[1..len-1]` (panics when `len = 0`) -/
def nonDepotNodes (t : Tour) : List Nat :=
  if t.isDummy then t.nodes else (t.nodes.drop 1).take (t.nodes.length - 2)

def totalDistance (t : Tour) : Dist := Dist.add t.serviceDist t.dhDist

/-- `Tour::maintenance_counter` -/
def maintenanceCounter (nw : Network) (t : Tour) : Int :=
  if t.visitsMaint then (t.totalDistance.counter) - (nw.maxDist : Int) else t.totalDistance.counter

def startDepot (nw : Network) (t : Tour) : R Nat := do
  let f ← t.firstNode
  if (nw.node f).isStartDepot then pure f else .error (.err "tour does not have a start depot.")

def endDepot (nw : Network) (t : Tour) : R Nat := do
  let l ← t.lastNode
  if (nw.node l).isEndDepot then pure l else .error (.err "tour does not have an end depot.")

def lastNonDepot (nw : Network) (t : Tour) : Option Nat :=
  t.nodes.reverse.find? (fun n => !(nw.node n).isDepot)

def firstNonDepot (t : Tour) : Option Nat := t.nonDepotNodes.head?

/-- `Tour::new_allow_invalid`: the validations of the constructor; `true` = some validation fails -/
def newErrors (nw : Network) (nodes : List Nat) : R Bool := do
  let f ← idxAt nodes 0
  let l ← idxAt nodes (nodes.length - 1)
  let e1 := !(nw.node f).isStartDepot
  let e2 := !(nw.node l).isEndDepot
  let e3 := nodes.length < 3
  let e4 := ((nodes.take (nodes.length - 1)).drop 1).any (fun n => (nw.node n).isDepot)
  let e5 := (pairs nodes).any (fun p => !(nw.canReach p.1 p.2))
  pure (e1 || e2 || e3 || e4 || e5)

/-- `Tour::new` -/
def new (nw : Network) (nodes : List Nat) : R Tour := do
  if ← newErrors nw nodes then .error (.err "invalid tour") else pure (computing nw nodes false)

/-- `Path::new_trusted`: `none` iff all nodes are depots -/
def pathTrusted (nw : Network) (nodes : List Nat) : Option (List Nat) :=
  if nodes.all (fun n => (nw.node n).isDepot) then none else some nodes

/-- consecutive nodes are connectable (the test of `Path::new`) -/
def isChain (nw : Network) (nodes : List Nat) : Bool := (pairs nodes).all (fun p => nw.canReach p.1 p.2)

/-- `Path::new` -/
def pathNew (nw : Network) (nodes : List Nat) : R (Option (List Nat)) :=
  if (pairs nodes).any (fun p => !(nw.canReach p.1 p.2)) then .error (.err "Not a valid Path")
  else pure (pathTrusted nw nodes)

/-- `Tour::new_dummy` -/
def newDummy (nw : Network) (path : List Nat) : R Tour :=
  let nodes := path.filter (fun n => (nw.node n).isService)
  if nodes.isEmpty then .error (.err "Dummy tour needs to have at least one service nodes.")
  else pure (computing nw nodes true)

/-- `position_of`: `binary_search_by(cmp_start_time)`. On the strictly start-time-sorted node
    lists of valid tours the standard library's binary search returns the index of the node or
    `Err`; that contract of `std` is assumed (trusted base), sortedness is part of tour validity (`Spec.tourValidB`). -/
def positionOf (t : Tour) (node : Nat) : R Nat :=
  match t.nodes.findIdx? (· == node) with
  | some p => pure p
  | none => .error (.err "Node not part of tour.")

/-- `check_if_sequence_is_removable` -/
def checkSeqRemovable (nw : Network) (t : Tour) (s e : Nat) : R Unit := do
  let n := t.nodes.length
  if !t.isDummy && n < 3 then .error (.panic "usize underflow: nodes.len() - 3")
  else if !t.isDummy && s == 0 && e ≤ n - 3 then
    .error (.err "Start depot cannot be removed without removing all non-depots.")
  else if !t.isDummy && e == n - 1 && s ≥ 2 then
    .error (.err "End depot cannot be removed without removing all non-depots.")
  else if s > e then .error (.err "start_position comes after end_position.")
  else if s > 0 && e < n - 1 then do
    let a ← idxAt t.nodes (s - 1)
    let b ← idxAt t.nodes (e + 1)
    if !(nw.canReach a b) then .error (.err "Removing nodes makes the tour invalid.") else pure ()
  else pure ()

def checkRemovable (nw : Network) (t : Tour) (a b : Nat) : R Unit := do
  let s ← t.positionOf a
  let e ← t.positionOf b
  checkSeqRemovable nw t s e

/-- `latest_departure_before` (binary search on start times) -/
def latestDepartureBefore (nw : Network) (strict : Bool) (nodes : List Nat) (time : ExtTime)
    (left right : Nat) : R (Option Nat) :=
  let before (n : Nat) : Bool :=
    if strict then ExtTime.lt (nw.node n).startT time else ExtTime.le (nw.node n).startT time
  if left + 1 = right then do
    let n ← idxAt nodes left
    pure (if before n then some left else none)
  else if h : left + 1 < right then do
    let mid := left + (right - left) / 2
    let n ← idxAt nodes mid
    if before n then latestDepartureBefore nw strict nodes time mid right
    else latestDepartureBefore nw strict nodes time left mid
  else .error (.panic "binary search on an empty range")
termination_by right - left
decreasing_by all_goals omega

/-- `earliest_arrival_after` (binary search on end times) -/
def earliestArrivalAfter (nw : Network) (strict : Bool) (nodes : List Nat) (time : ExtTime)
    (left right : Nat) : R (Option Nat) :=
  let after (n : Nat) : Bool :=
    if strict then ExtTime.lt time (nw.node n).endT else ExtTime.le time (nw.node n).endT
  if left + 1 = right then do
    let n ← idxAt nodes left
    pure (if after n then some left else none)
  else if h : left + 1 < right then do
    let mid := left + (right - left) / 2
    let n ← idxAt nodes (mid - 1)
    if after n then earliestArrivalAfter nw strict nodes time left mid
    else earliestArrivalAfter nw strict nodes time mid right
  else .error (.panic "binary search on an empty range")
termination_by right - left
decreasing_by all_goals omega

/-- the `while pos > 0 && !can_reach(nodes[pos-1], node) { pos -= 1 }` loop -/
def walkDown (nw : Network) (nodes : List Nat) (node : Nat) : Nat → R Nat
  | 0 => pure 0
  | pos + 1 => do
    let p ← idxAt nodes pos
    if !(nw.canReach p node) then walkDown nw nodes node pos else pure (pos + 1)

/-- `latest_not_reaching_node` -/
def latestNotReachingNode (nw : Network) (strict : Bool) (t : Tour) (node : Nat) : R (Option Nat) := do
  let last ← t.lastNode
  if nw.canReach last node then pure none else
  let cand ← earliestArrivalAfter nw strict t.nodes (nw.node node).startT 0 t.nodes.length
  let pos ← walkDown nw t.nodes node (cand.getD (t.nodes.length - 1))
  pure (some pos)

/-- the `while pos < len-1 && !can_reach(node, nodes[pos+1]) { pos += 1 }` loop, with fuel = len -/
def walkUp (nw : Network) (nodes : List Nat) (node : Nat) : Nat → Nat → R Nat
  | 0, pos => pure pos
  | fuel + 1, pos =>
    if pos < nodes.length - 1 then do
      let n ← idxAt nodes (pos + 1)
      if !(nw.canReach node n) then walkUp nw nodes node fuel (pos + 1) else pure pos
    else pure pos

/-- `latest_not_reached_by_node` -/
def latestNotReachedByNode (nw : Network) (strict : Bool) (t : Tour) (node : Nat) : R (Option Nat) := do
  let first ← t.firstNode
  if nw.canReach node first then pure none else
  let cand ← latestDepartureBefore nw strict t.nodes (nw.node node).endT 0 t.nodes.length
  let pos ← walkUp nw t.nodes node t.nodes.length (cand.getD 0)
  pure (some pos)

/-- `get_insert_positions` -/
def getInsertPositions (nw : Network) (strict : Bool) (t : Tour) (first last : Nat) : R (Nat × Nat) := do
  let s ← if (nw.node first).isDepot then pure 0 else do
      let r ← latestNotReachingNode nw strict t first
      pure (r.getD t.nodes.length)
  let e ← if (nw.node last).isDepot then pure t.nodes.length else do
      let r ← latestNotReachedByNode nw strict t last
      pure (match r with | none => 0 | some p => p + 1)
  pure (s, e)

/-- `nodes[s..e]`; panics when `s > e` or `e > len` like the Rust slice -/
def slice (l : List Nat) (s e : Nat) : R (List Nat) :=
  if s ≤ e && e ≤ l.length then pure ((l.drop s).take (e - s))
  else .error (.panic "slice index out of range")

/-- `Tour::conflict` -/
def conflict (nw : Network) (strict : Bool) (t : Tour) (a b : Nat) : R (Option (List Nat)) := do
  let (s, e) ← getInsertPositions nw strict t a b
  let sl ← slice t.nodes s e
  pure (pathTrusted nw sl)

/-- `Tour::sub_path` (repaired, finding F13: the endpoints are located by `position_of`; the
    pinned code used `latest_not_reaching_node`, see `subPathPinned`) -/
def subPath (nw : Network) (t : Tour) (a b : Nat) : R (List Nat) := do
  let s ← match t.positionOf a with
    | .ok s => pure s
    | .error _ => .error (.err "segment.start() not part of Tour.")
  let e ← match t.positionOf b with
    | .ok e => pure e
    | .error _ => .error (.err "segment.end() not part of Tour.")
  if s > e then .error (.err "segment.start() is after segment.end().") else
  let sl ← slice t.nodes s (e + 1)
  match pathTrusted nw sl with
  | some p => pure p
  | none => .error (.panic "tour.rs: segment is empty path.")

/-- the pinned `Tour::sub_path` -/
def subPathPinned (nw : Network) (strict : Bool) (t : Tour) (a b : Nat) : R (List Nat) := do
  let some s ← latestNotReachingNode nw strict t a | .error (.err "segment.start() not part of Tour.")
  if a != (← idxAt t.nodes s) then .error (.err "segment.start() not part of Tour.") else
  let some e ← latestNotReachingNode nw strict t b | .error (.err "segment.end() not part of Tour.")
  if b != (← idxAt t.nodes e) then .error (.err "segment.end() not part of Tour.") else
  if s > e then .error (.err "segment.start() is after segment.end().") else
  let sl ← slice t.nodes s (e + 1)
  match pathTrusted nw sl with
  | some p => pure p
  | none => .error (.panic "tour.rs: segment is empty path.")

/-! #### delta helpers of tour/modifications.rs -/

def linkAfterUnchecked (nw : Network) (t : Tour) (pos : Nat) : R Nat := do
  let a ← idxAt t.nodes pos
  let b ← idxAt t.nodes (pos + 1)
  pure (nw.linkCost a b)

def linkAfter (nw : Network) (t : Tour) (pos : Nat) : R Nat :=
  if pos ≥ t.nodes.length - 1 then pure 0 else linkAfterUnchecked nw t pos

def linkBefore (nw : Network) (t : Tour) (pos : Nat) : R Nat :=
  if pos == 0 then pure 0 else linkAfter nw t (pos - 1)

def mapMR {α β} (f : α → R β) : List α → R (List β)
  | [] => pure []
  | x :: xs => do let y ← f x; let ys ← mapMR f xs; pure (y :: ys)

/-- `costs_of_segment` -/
def costsOfSegment (nw : Network) (t : Tour) (s e : Nat) : R Nat := do
  if s ≥ e then linkBefore nw t s else
  let before ← linkBefore nw t s
  let inner ← mapMR (linkAfterUnchecked nw t) ((List.range (e - 1 - s)).map (· + s))
  let after ← linkAfter nw t (e - 1)
  let ns ← mapMR (fun i => do let n ← idxAt t.nodes i; pure (nw.nodeCost n)) ((List.range (e - s)).map (· + s))
  pure (before + sumNat inner + after + sumNat ns)

def costBeforeNew (nw : Network) (nodes newNodes : List Nat) (s : Nat) : R Nat :=
  if s == 0 then pure 0 else do
    let a ← idxAt nodes (s - 1); let b ← idxAt newNodes 0; pure (nw.linkCost a b)

def costAfterNew (nw : Network) (nodes newNodes : List Nat) (e : Nat) : R Nat :=
  if e ≥ nodes.length then pure 0 else do
    let a ← idxAt newNodes (newNodes.length - 1); let b ← idxAt nodes e; pure (nw.linkCost a b)

/-- `costs_of_new_nodes` -/
def costsOfNewNodes (nw : Network) (t : Tour) (newNodes : List Nat) (s e : Nat) : R Nat := do
  let before ← costBeforeNew nw t.nodes newNodes s
  let inner := sumNat ((pairs newNodes).map (fun p => nw.linkCost p.1 p.2))
  let after ← costAfterNew nw t.nodes newNodes e
  pure (before + inner + after + sumNat (newNodes.map nw.nodeCost))

/-- the link in front of position `s` when nothing is removed (zero at both ends) -/
def dhEmptySeg (nw : Network) (nodes : List Nat) (s : Nat) : R Dist :=
  if s == 0 || s == nodes.length then pure Dist.zero else do
    let a ← idxAt nodes (s - 1); let b ← idxAt nodes s
    pure (nw.deadHeadDistanceBetween a b)

def dhBeforeSeg (nw : Network) (nodes : List Nat) (s : Nat) : R Dist :=
  if s == 0 then pure Dist.zero else do
    let a ← idxAt nodes (s - 1); let b ← idxAt nodes s
    pure (nw.deadHeadDistanceBetween a b)

def dhAfterSeg (nw : Network) (nodes : List Nat) (e : Nat) : R Dist :=
  if e == nodes.length then pure Dist.zero else do
    let a ← idxAt nodes (e - 1); let b ← idxAt nodes e
    pure (nw.deadHeadDistanceBetween a b)

/-- `dead_head_distance_of_segment` -/
def dhDistOfSegment (nw : Network) (t : Tour) (s e : Nat) : R Dist :=
  if s ≥ e then dhEmptySeg nw t.nodes s else do
  let before ← dhBeforeSeg nw t.nodes s
  let sl ← slice t.nodes s e
  let inner := sumDist ((pairs sl).map (fun p => nw.deadHeadDistanceBetween p.1 p.2))
  let after ← dhAfterSeg nw t.nodes e
  pure (Dist.add (Dist.add before inner) after)

def dhBeforeNew (nw : Network) (nodes newNodes : List Nat) (s : Nat) : R Dist :=
  if s == 0 then pure Dist.zero else do
    let a ← idxAt nodes (s - 1); let b ← idxAt newNodes 0
    pure (nw.deadHeadDistanceBetween a b)

def dhAfterNew (nw : Network) (nodes newNodes : List Nat) (e : Nat) : R Dist :=
  if e ≥ nodes.length then pure Dist.zero else do
    let a ← idxAt newNodes (newNodes.length - 1); let b ← idxAt nodes e
    pure (nw.deadHeadDistanceBetween a b)

/-- `dead_head_distance_of_new_nodes` -/
def dhDistOfNewNodes (nw : Network) (t : Tour) (newNodes : List Nat) (s e : Nat) : R Dist := do
  let before ← dhBeforeNew nw t.nodes newNodes s
  let inner := sumDist ((pairs newNodes).map (fun p => nw.deadHeadDistanceBetween p.1 p.2))
  let after ← dhAfterNew nw t.nodes newNodes e
  pure (Dist.add (Dist.add before inner) after)

def subNat (a b : Nat) (site : String) : R Nat :=
  if b ≤ a then pure (a - b) else .error (.panic site)

/-- `Tour::replace_start_depot` -/
def replaceStartDepot (nw : Network) (t : Tour) (d : Nat) : R Tour := do
  if t.isDummy then .error (.err "cannot replace start depot of dummy tour") else
  if !(nw.node d).isStartDepot then .error (.err "node has to be start depot") else
  let old ← idxAt t.nodes 0
  let nodes := t.nodes.set 0 d
  let fnd ← idxAt nodes 1
  let dh ← if t.dhDist == .inf then pure (nw.dhDistOf nodes) else do
      let x ← Dist.sub t.dhDist (nw.deadHeadDistanceBetween old fnd)
      pure (Dist.add x (nw.deadHeadDistanceBetween d fnd))
  let c ← subNat t.costs (nw.secOrPlanning (nw.deadHeadTimeBetween old fnd) * nw.cDH) "costs underflow"
  pure { t with nodes, dhDist := dh,
                costs := c + nw.secOrPlanning (nw.deadHeadTimeBetween d fnd) * nw.cDH }

/-- `Tour::replace_end_depot` -/
def replaceEndDepot (nw : Network) (t : Tour) (d : Nat) : R Tour := do
  if t.isDummy then .error (.err "cannot replace end depot of dummy tour") else
  if !(nw.node d).isEndDepot then .error (.err "node has to be end depot") else
  if t.nodes.length == 0 then .error (.panic "usize underflow: nodes.len() - 1") else
  let ei := t.nodes.length - 1
  let old ← idxAt t.nodes ei
  let nodes := t.nodes.set ei d
  if ei == 0 then .error (.panic "usize underflow: end_index - 1") else
  let lnd ← idxAt nodes (ei - 1)
  let dh ← if t.dhDist == .inf then pure (nw.dhDistOf nodes) else do
      let x ← Dist.sub t.dhDist (nw.deadHeadDistanceBetween lnd old)
      pure (Dist.add x (nw.deadHeadDistanceBetween lnd d))
  let c ← subNat t.costs (nw.secOrPlanning (nw.deadHeadTimeBetween lnd old) * nw.cDH) "costs underflow"
  pure { t with nodes, dhDist := dh,
                costs := c + nw.secOrPlanning (nw.deadHeadTimeBetween lnd d) * nw.cDH }

/-- dead-head distance of the new link closing the gap `[s, e]` (zero when the gap touches an end) -/
def gapDist (nw : Network) (nodes : List Nat) (s e : Nat) : R Dist :=
  if s == 0 || e == nodes.length - 1 then pure Dist.zero else do
    let x ← idxAt nodes (s - 1); let y ← idxAt nodes (e + 1)
    pure (nw.deadHeadDistanceBetween x y)

def gapCost (nw : Network) (nodes : List Nat) (s e : Nat) : R Nat :=
  if s == 0 || e == nodes.length - 1 then pure 0 else do
    let x ← idxAt nodes (s - 1); let y ← idxAt nodes (e + 1)
    pure (nw.linkCost x y)

/-- `Tour::remove`: `(shrunk tour or none, removed path)` -/
def remove (nw : Network) (t : Tour) (a b : Nat) : R (Option Tour × List Nat) := do
  let s ← t.positionOf a
  let e ← t.positionOf b
  checkSeqRemovable nw t s e
  let removed ← slice t.nodes s (e + 1)
  let ud ← Dur.sub t.usefulDur (nw.usefulDurOf removed)
  let sd ← Dist.sub t.serviceDist (nw.serviceDistOf removed)
  let seg ← dhDistOfSegment nw t s (e + 1)
  let dh0 ← Dist.sub t.dhDist seg
  let gapD ← gapDist nw t.nodes s e
  let dh1 := Dist.add dh0 gapD
  let cseg ← costsOfSegment nw t s (e + 1)
  let c0 ← subNat t.costs cseg "costs underflow"
  let gapC ← gapCost nw t.nodes s e
  let tourNodes := t.nodes.take s ++ t.nodes.drop (e + 1)
  -- repaired code (finding F8): recompute when the cached value is Infinity
  let dh := if t.dhDist == .inf then nw.dhDistOf tourNodes else dh1
  let some path := pathTrusted nw removed
    | .error (.panic "tour/modifications.rs: empty path should be impossible.")
  if tourNodes.isEmpty || (!t.isDummy && tourNodes.length ≤ 2) then pure (none, path) else
  let vm := t.visitsMaint &&
    (!(removed.any (fun n => (nw.node n).isMaint)) || tourNodes.any (fun n => (nw.node n).isMaint))
  pure (some { nodes := tourNodes, isDummy := t.isDummy, visitsMaint := vm, usefulDur := ud,
               serviceDist := sd, dhDist := dh, costs := c0 + gapC }, path)

/-- the node-level part of `Tour::insert_path`: the path after dropping depots for dummy tours,
    the replaced range `[s, e)`, the replaced nodes and the new node list -/
structure InsertPlan where
  newNodes : List Nat
  s : Nat
  e : Nat
  old : List Nat
  tourNodes : List Nat
  deriving Repr, DecidableEq

/-- dummy tours drop a leading depot of the path (`drop_first().unwrap()`) -/
def stripFirst (nw : Network) (isDummy : Bool) (path : List Nat) : R (List Nat) :=
  if isDummy then
    match idxAt path 0 with
    | .error e => .error e
    | .ok f =>
      if (nw.node f).isDepot then
        match pathTrusted nw (path.drop 1) with
        | some p => .ok p
        | none => .error (.panic "insert_path: drop_first().unwrap()")
      else .ok path
  else .ok path

/-- dummy tours drop a trailing depot of the path (`drop_last().unwrap()`) -/
def stripLast (nw : Network) (isDummy : Bool) (p1 : List Nat) : R (List Nat) :=
  if isDummy then
    match idxAt p1 (p1.length - 1) with
    | .error e => .error e
    | .ok l =>
      if (nw.node l).isDepot then
        match pathTrusted nw (p1.take (p1.length - 1)) with
        | some p => .ok p
        | none => .error (.panic "insert_path: drop_last().unwrap()")
      else .ok p1
  else .ok p1

def insertPlan (nw : Network) (strict : Bool) (t : Tour) (path : List Nat) : R InsertPlan :=
  stripFirst nw t.isDummy path >>= fun p1 =>
  stripLast nw t.isDummy p1 >>= fun p2 =>
  idxAt p2 0 >>= fun first =>
  idxAt p2 (p2.length - 1) >>= fun last =>
  getInsertPositions nw strict t first last >>= fun se =>
  slice t.nodes se.1 se.2 >>= fun old =>
  pure { newNodes := p2, s := se.1, e := se.2, old, tourNodes := t.nodes.take se.1 ++ p2 ++ t.nodes.drop se.2 }

/-- the cache part of `Tour::insert_path` (delta updates; repaired, finding F8: the dead-head
    distance is recomputed when the cached value is Infinity) -/
def insertCaches (nw : Network) (t : Tour) (pl : InsertPlan) : R (Bool × Dur × Dist × Dist × Nat) := do
  let newNodes := pl.newNodes
  let hasMaint := newNodes.any (fun n => (nw.node n).isMaint)
  let ud0 ← Dur.sub t.usefulDur (nw.usefulDurOf pl.old)
  let ud := Dur.add ud0 (nw.usefulDurOf newNodes)
  let sd0 ← Dist.sub t.serviceDist (nw.serviceDistOf pl.old)
  let sd := Dist.add sd0 (nw.serviceDistOf newNodes)
  let segD ← dhDistOfSegment nw t pl.s pl.e
  let dh0 ← Dist.sub t.dhDist segD
  let newD ← dhDistOfNewNodes nw t newNodes pl.s pl.e
  let dh1 := Dist.add dh0 newD
  let segC ← costsOfSegment nw t pl.s pl.e
  let c0 ← subNat t.costs segC "costs underflow"
  let newC ← costsOfNewNodes nw t newNodes pl.s pl.e
  let dh := if t.dhDist == .inf then nw.dhDistOf pl.tourNodes else dh1
  let vm := hasMaint || (t.visitsMaint &&
    (!(pl.old.any (fun n => (nw.node n).isMaint)) || pl.tourNodes.any (fun n => (nw.node n).isMaint)))
  pure (vm, ud, sd, dh, c0 + newC)

/-- `Tour::insert_path`: `(new tour, removed path or none)` -/
def insertPath (nw : Network) (strict : Bool) (t : Tour) (path : List Nat) : R (Tour × Option (List Nat)) := do
  let pl ← insertPlan nw strict t path
  let c ← insertCaches nw t pl
  pure ({ nodes := pl.tourNodes, isDummy := t.isDummy, visitsMaint := c.1, usefulDur := c.2.1,
          serviceDist := c.2.2.1, dhDist := c.2.2.2.1, costs := c.2.2.2.2 }, pathTrusted nw pl.old)

/-- `preceding_overhead` -/
def precedingOverhead (nw : Network) (t : Tour) (node : Nat) : R Dur := do
  if node == (← t.firstNode) then pure .inf else
  let pos ← t.positionOf node
  if pos == 0 then .error (.panic "usize underflow: pos - 1") else
  let pred ← idxAt t.nodes (pos - 1)
  ExtTime.diff (nw.node node).startT (nw.node pred).endT

/-- `subsequent_overhead` -/
def subsequentOverhead (nw : Network) (t : Tour) (node : Nat) : R Dur := do
  if node == (← t.lastNode) then pure .inf else
  let pos ← t.positionOf node
  match t.nodes[pos + 1]? with
  | none => .error (.err "invalid position")
  | some succ => ExtTime.diff (nw.node succ).startT (nw.node node).endT

end Tour
end RSSched
