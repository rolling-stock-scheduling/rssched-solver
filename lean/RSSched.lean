import RSSched.Basic
import RSSched.Driver.Mcf
import RSSched.Driver.Net
import RSSched.Driver.Parse
import RSSched.Driver.Pipe
import RSSched.Driver.Sched
import RSSched.Driver.SchedDump
import RSSched.Driver.Search
import RSSched.Driver.Serve
import RSSched.Driver.Swaps
import RSSched.Driver.Tour
import RSSched.Driver.Trans
import RSSched.Lemmas.Algebra
import RSSched.Lemmas.Assoc
import RSSched.Lemmas.BinSearch
import RSSched.Lemmas.Cyclic
import RSSched.Lemmas.Fault
import RSSched.Lemmas.FlowCert
import RSSched.Lemmas.InsertPos
import RSSched.Lemmas.ScheduleOps
import RSSched.Lemmas.SegIndex
import RSSched.Lemmas.Splice
import RSSched.Lemmas.TourOps
import RSSched.Lemmas.TourSeg
import RSSched.Model.Base
import RSSched.Model.Flow
import RSSched.Model.Formation
import RSSched.Model.Network
import RSSched.Model.Objective
import RSSched.Model.Ops
import RSSched.Model.Output
import RSSched.Model.Pipeline
import RSSched.Model.Schedule
import RSSched.Model.ScheduleBase
import RSSched.Model.Server
import RSSched.Model.Solve
import RSSched.Model.Swaps
import RSSched.Model.Tour
import RSSched.Model.Transition
import RSSched.Model.TransitionSearch
import RSSched.Props.C01
import RSSched.Props.C01Chain
import RSSched.Props.C02Limits
import RSSched.Props.C03
import RSSched.Props.C04Objective
import RSSched.Props.C05
import RSSched.Props.C05Final
import RSSched.Props.C05Reassign
import RSSched.Props.C06
import RSSched.Props.C07Pipeline
import RSSched.Props.C08
import RSSched.Props.C09
import RSSched.Props.C09Costs
import RSSched.Props.C09CostsAll
import RSSched.Props.C09Insert
import RSSched.Props.C09Sched
import RSSched.Props.C09Tour
import RSSched.Props.C09TourCaches
import RSSched.Props.C09Unserved
import RSSched.Props.C10
import RSSched.Props.C10All
import RSSched.Props.C10Cycles
import RSSched.Props.C10Dummy
import RSSched.Props.C10Fit
import RSSched.Props.C10Forms
import RSSched.Props.C10Limits
import RSSched.Props.C10Listing
import RSSched.Props.C10Tour
import RSSched.Props.C10Tours
import RSSched.Props.C10Types
import RSSched.Props.C10Usage
import RSSched.Props.C11
import RSSched.Props.C11Args
import RSSched.Props.C11Swaps
import RSSched.Props.C12
import RSSched.Props.C12Insert
import RSSched.Props.C12Remove
import RSSched.Props.C13
import RSSched.Props.C13Effects
import RSSched.Props.C13Formation
import RSSched.Props.C13Frame
import RSSched.Props.C14
import RSSched.Props.C15
import RSSched.Props.C15Batch
import RSSched.Props.C15NewFast
import RSSched.Props.C15Ops
import RSSched.Props.C15Optimise
import RSSched.Props.C15Search
import RSSched.Props.C15Sound
import RSSched.Props.C16
import RSSched.Props.C16Pipeline
import RSSched.Props.C17
import RSSched.Props.C18
import RSSched.Spec.Frame
import RSSched.Spec.Output
import RSSched.Spec.Schedule
import RSSched.Spec.Tour
